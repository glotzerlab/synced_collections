/-
C06 — objects on one file share one buffered state; the flush keeps all their writes.
-/
import SC.Lemmas.BufVisible
import SC.Lemmas.BufRead
namespace SC.Props
open SC SC.B

/-- C06, shared-memory strategy, reads: after a buffered load the loading object's data IS the
buffered data — every object bound to the file addresses one container, so a write through any
of them is what a read through any other returns. -/
theorem C06_memory_objects_share (s : B.State) (oi : Nat) (o : B.Obj) (e : B.Entry)
    (ho : s.objs[oi]? = some o) (hb : s.isBuffered o = true) (hs : s.strategy = .sharedMemory)
    (he : s.entry o.res = some e) :
    (load s oi).2 = none ∧ ((load s oi).1.objs[oi]?).map (·.cell) = some e.cell := by
  rw [load_mem_eq s oi o e ho hb hs he]
  refine ⟨rfl, ?_⟩
  have hlt : oi < (s.register oi).objs.length := by
    rw [(bufOnly_register s oi).objs]; exact (List.getElem?_eq_some_iff.mp ho).1
  simp [B.State.setObj, hlt]

/-- C06, serialized strategy, reads: a buffered load merges the buffered contents — written by
whichever object — into the loading object. -/
theorem C06_serialized_load_merges_entry (s : B.State) (oi : Nat) (o : B.Obj) (e : B.Entry)
    (ho : s.objs[oi]? = some o) (hb : s.isBuffered o = true) (hs : s.strategy = .serialized)
    (he : s.entry o.res = some e) (hcap : ¬ s.size > s.capacity) :
    load s oi = mergeInto (s.register oi) oi o e.contents :=
  load_ser_merges_entry s oi o e ho hb hs he hcap

/-- C06, flush, shared-memory strategy: what is written is the buffered data, for EVERY object
`oi` that performs the flush — also one that only read, or never touched the buffer, and
whatever its own memory holds. -/
theorem C06_memory_flush_writes_buffered (s : B.State) (oi : Nat) (o : B.Obj) (force : Bool) (e : B.Entry)
    (hb : (!(s.isBuffered o) || force) = true) (he : s.entry o.res = some e)
    (hm : e.modified = true) (hc : e.fmeta = s.stat o.res) (hw : s.failing.contains o.res = false) :
    (flushMem s oi o force).1.store o.res = some (s.cellData e.cell).toBase :=
  (flushMem_writes_buffered s oi o force e hb he hm hc hw).2

/-- C06, flush, serialized strategy: whether a flush writes is decided from the buffered
contents against the hash taken when the file entered the buffer — not from the data of the
object that happens to flush: contents = hash → nothing written (first clause); contents ≠ hash →
the buffered contents are written (second clause), for every flushing object. -/
theorem C06_serialized_flush_decides_from_entry (s : B.State) (oi : Nat) (o : B.Obj) (force : Bool)
    (e : B.Entry) (hb : (!(s.isBuffered o) || force) = true) (he : s.entry o.res = some e) :
    (Tr.same e.contents e.hash = true →
      (flushSer s oi o force).1.stores = s.stores ∧ (flushSer s oi o force).2 = none) ∧
    (Tr.same e.contents e.hash = false → e.fmeta = s.stat o.res →
      (mergeInto s oi o e.contents).2 = none → s.failing.contains o.res = false →
      (flushSer s oi o force).1.store o.res = some ((mergeInto s oi o e.contents).1.root o).toBase) :=
  ⟨fun hm => ⟨(flushSer_readonly s oi o force e he hm).2.1, (flushSer_readonly s oi o force e he hm).1⟩,
   fun hm hc hmerge hw => (flushSer_writes s oi o force e hb he hm hc hmerge hw).2.1⟩

/-- C06 (and C05 "reads see all earlier buffered writes"), serialized strategy, as ONE statement
about a write followed by a read: object `oi` saves while buffered (buffer not over capacity).
Nothing is raised, no file is written, and the next buffered load through ANY object `oj` bound to
the same file — `oi` itself or another — merges exactly the content `oi` saved; when that load
returns, `oj`'s content IS that content (same structure, identical scalars, same key sets),
whatever `oj` held before.  `.wf` = no duplicate keys, which Python dicts cannot have. -/
theorem C06_serialized_write_visible (s : B.State) (oi oj : Nat) (o oJ : B.Obj)
    (hs : s.strategy = .serialized)
    (ho : s.objs[oi]? = some o) (hb : s.isBuffered o = true)
    (hoj : s.objs[oj]? = some oJ) (hbj : s.isBuffered oJ = true) (hres : oJ.res = o.res)
    (hfit : ¬ (saveSer (s.register oi) o).size > (saveSer (s.register oi) o).capacity) :
    (save s oi).2 = none ∧ (save s oi).1.stores = s.stores ∧
    load (save s oi).1 oj = mergeInto ((save s oi).1.register oj) oj oJ (s.root o).toBase ∧
    ((load (save s oi).1 oj).2 = none → (s.root o).toBase.wf = true → (s.root oJ).wf = true →
      (s.root o).toBase ≠ .leaf .null →
      Eqv ((load (save s oi).1 oj).1.root oJ) (s.root o).toBase) :=
  serialized_write_visible s oi oj o oJ hs ho hb hoj hbj hres hfit

/-- the same for the shared-memory strategy: after the buffered save through `oi`, a buffered load
through ANY object on the file makes it address the very container `oi` saved, content untouched -/
theorem C06_memory_write_visible (s : B.State) (oi oj : Nat) (o oJ : B.Obj)
    (hs : s.strategy = .sharedMemory)
    (ho : s.objs[oi]? = some o) (hb : s.isBuffered o = true)
    (hoj : s.objs[oj]? = some oJ) (hbj : s.isBuffered oJ = true) (hres : oJ.res = o.res)
    (hfit : ¬ (saveMem (s.register oi) o).size > (saveMem (s.register oi) o).capacity) :
    (save s oi).2 = none ∧ (save s oi).1.stores = s.stores ∧
    (load (save s oi).1 oj).2 = none ∧
    ∃ oJ', (load (save s oi).1 oj).1.objs[oj]? = some oJ' ∧ oJ'.cell = o.cell ∧
      (load (save s oi).1 oj).1.root oJ' = s.root o := by
  obtain ⟨hsv, hX⟩ := (save_fits s oi o ho hb).2 hs hfit
  obtain ⟨e, he, hcell, _⟩ := entry_saveMem (s.register oi) o
  have hX2 := hX.trans (bufOnly_register _ oj)
  rw [hsv, load_mem_eq _ oj oJ e (hX.objs ▸ hoj) ((hX.isBuffered oJ).trans hbj) (hX.strategy.trans hs) (hres ▸ he)]
  refine ⟨rfl, hX.disk.1, rfl, { oJ with cell := e.cell }, ?_, hcell, ?_⟩
  · exact List.getElem?_set_self (by rw [hX2.objs]; exact (List.getElem?_eq_some_iff.mp hoj).1)
  · have hroot : ∀ (X : B.State) (o1 o2 : B.Obj), (X.setObj oj o1).root o2 = X.root o2 := fun _ _ _ => rfl
    rw [hroot, hX2.root, B.State.root, hcell]
    rfl

/-- the scenario that used to lose a write (reader flushed first), on the machine: two objects on
one file in one backend-wide context; o1 only reads and is popped first; the file still gets w. -/
example :
    let fam : Fam := ⟨[.requireStringKey, .jsonFormat], [.requireStringKey, .jsonFormat]⟩
    let s := run (B.State.init fam .sharedMemory [])
      [.openObj true 0 none, .openObj true 0 none, .enterCls none,
       .call (.root 0) (.dRead (.get (.s "k") (.leaf .null))), .call (.root 1) (.dRead (.get (.s "k") (.leaf .null))),
       .call (.root 0) (.dSetitem (.s "w") (.leaf (.int 1))), .exitCls]
    (match s.store 0 with | some d => Tr.same d (.dict () [(.s "w", .leaf (.int 1))] : J) | none => false) = true := by
  decide +kernel

end SC.Props
