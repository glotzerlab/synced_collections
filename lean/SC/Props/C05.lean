/-
C05 — buffered mode defers writes to the outermost exit, where the file receives the
buffered content.  (Transparency — every result equals the unbuffered result — is tied by the
twin oracle and the correspondence; see MANIFEST.)
-/
import SC.Lemmas.BufVisible
import SC.Lemmas.Attach
import SC.Generated.Tables
namespace SC.Props
open SC SC.B

/-- OBLIGATION on the current source: the fingerprint by which the serialized buffer decides at the
flush whether the buffered bytes differ from what entered the buffer (`_hash`) is the digest of a
`hashlib` hash — the assumption under which the buffer machine may compare *contents* where the
code compares hashes (`Entry.hash`).  A cheaper checksum makes distinct contents compare equal and
the flush skip a modified file; the concrete lost write is then looked for by the collision probe
(`unit_weak_hash`). -/
theorem C05_change_detection_hash_is_cryptographic : Generated.bufferHash = .cryptographic := by decide +kernel

/-- C05, deferral: a save performed while the object is buffered (any nesting of `obj.buffered` /
`buffer_backend()`) changes neither content nor metadata of ANY file — unless the buffer size
exceeds the capacity afterwards, in which case the result is exactly that of the forced flush. -/
theorem C05_buffered_save_defers (s : B.State) (oi : Nat) (o : B.Obj) (ho : s.objs[oi]? = some o)
    (hb : s.isBuffered o = true) :
    (save s oi).1.stores = s.stores ∧ (save s oi).1.metas = s.metas ∨
    ∃ s1 : B.State, s1.stores = s.stores ∧ s1.metas = s.metas ∧ s1.size > s1.capacity ∧
      save s oi = flushBuffer s1 true := by
  -- a buffered save = registration and buffer insert, which touch no file, then the capacity check
  rcases save_cases s oi with heq | ⟨o', ho', hb', _⟩ | ⟨o', _, _, ⟨_, heq⟩ | ⟨e', n, heq, _⟩⟩
  · rw [heq]; exact Or.inl ⟨rfl, rfl⟩
  · cases ho.symm.trans ho'; rw [hb] at hb'; cases hb'
  · rw [heq]; exact Or.inl (bufOnly_register s oi).disk
  · have h1 := ((bufOnly_register s oi).trans (bufOnly_setBuf _ o'.res (some e') n)).disk
    rw [heq, overflow]
    split
    · exact Or.inr ⟨_, h1.1, h1.2, ‹_›, rfl⟩
    · exact Or.inl h1

/-- C05, the flush at the outermost exit, shared-memory strategy: the file receives exactly the
buffered data and the flush does not raise (no outside change, the write itself succeeds: `s.failing` lists the files whose writes fail with OSError). -/
theorem C05_exit_writes_buffered_memory (s : B.State) (oi : Nat) (o : B.Obj) (force : Bool) (e : B.Entry)
    (hb : (!(s.isBuffered o) || force) = true) (he : s.entry o.res = some e)
    (hm : e.modified = true) (hc : e.fmeta = s.stat o.res) (hw : s.failing.contains o.res = false) :
    (flushMem s oi o force).2 = none ∧
    (flushMem s oi o force).1.store o.res = some (s.cellData e.cell).toBase :=
  flushMem_writes_buffered s oi o force e hb he hm hc hw

/-- C05, the flush at the outermost exit, serialized strategy: the file receives the buffered
contents (merged into the flushing object) and the entry leaves the buffer. -/
theorem C05_exit_writes_buffered_serialized (s : B.State) (oi : Nat) (o : B.Obj) (force : Bool)
    (e : B.Entry) (hb : (!(s.isBuffered o) || force) = true) (he : s.entry o.res = some e)
    (hm : Tr.same e.contents e.hash = false) (hc : e.fmeta = s.stat o.res)
    (hmerge : (mergeInto s oi o e.contents).2 = none) (hw : s.failing.contains o.res = false) :
    (flushSer s oi o force).2 = none ∧
    (flushSer s oi o force).1.store o.res = some ((mergeInto s oi o e.contents).1.root o).toBase ∧
    (flushSer s oi o force).1.entry o.res = none :=
  flushSer_writes s oi o force e hb he hm hc hmerge hw

/-- ... and that written content IS the buffered contents (the merge post-condition): same
structure, identical scalars, same key sets — whatever the flushing object's own memory held. -/
theorem C05_exit_writes_buffered_serialized_content (s : B.State) (oi : Nat) (o : B.Obj) (e : B.Entry)
    (hc : e.contents.wf = true) (hr : (s.root o).wf = true) (hnn : e.contents ≠ .leaf .null)
    (hmerge : (mergeInto s oi o e.contents).2 = none) :
    Eqv ((mergeInto s oi o e.contents).1.root o) e.contents := by
  rw [mergeInto_root]
  exact (updNode_post s.fam e.contents (s.root o) s.next hc hr hnn hmerge).1

/-- C05, "reads see all earlier buffered writes" (serialized; the instance `oj = oi` of
`C06_serialized_write_visible`): after a buffered save that does not overflow the buffer, the next
buffered load through the same object merges exactly the saved content, without any file having
been written. -/
theorem C05_reads_see_buffered_writes (s : B.State) (oi : Nat) (o : B.Obj)
    (hs : s.strategy = .serialized) (ho : s.objs[oi]? = some o) (hb : s.isBuffered o = true)
    (hfit : ¬ (saveSer (s.register oi) o).size > (saveSer (s.register oi) o).capacity) :
    (save s oi).2 = none ∧ (save s oi).1.stores = s.stores ∧
    load (save s oi).1 oi = mergeInto ((save s oi).1.register oi) oi o (s.root o).toBase :=
  let h := serialized_write_visible s oi oi o o hs ho hb ho hb rfl hfit
  ⟨h.1, h.2.1, h.2.2.1⟩

/-- C05 / C02 in buffered mode: every load of the buffer machine — the merge of the file content
(first buffered access, unbuffered load) or of the buffered contents (serialized strategy, every
buffered access) into the object — keeps the child handles: along any path on which memory and
the merged data hold containers of the same kind, the node keeps its identity, and the merge does
not raise (valid data, no duplicate keys). -/
theorem C05_buffered_merge_keeps_handles (s : B.State) (oi : Nat) (o : B.Obj) (d : J) (p : List Seg)
    (hv : Valid s.fam d) (hd : d.wf = true) (ht : (s.root o).wf = true)
    (hk : kindsMatch p (s.root o) d = true) :
    (mergeInto s oi o d).2 = none ∧
    ∃ c c', Tr.sub p (s.root o) = some c ∧ Tr.sub p ((mergeInto s oi o d).1.root o) = some c' ∧
      c'.id? = c.id? ∧ c.id?.isSome = true := by
  obtain ⟨herr, c, c', h1, h2, h3, h4⟩ := attach s.fam p (s.root o) d s.next hv hd ht hk
  refine ⟨herr, c, c', h1, ?_, h3, h4⟩
  rw [mergeInto_root]
  exact h2

/-- non-vacuity and the whole scenario on the machine (shared memory, list): writes inside nested
contexts of both kinds leave the file missing; the outermost exit writes the final content. -/
example :
    let fam : Fam := ⟨[.requireStringKey, .jsonFormat], [.requireStringKey, .jsonFormat]⟩
    let s1 := run (B.State.init fam .sharedMemory [])
      [.openObj false 0 none, .enterCls none, .enterObj 0, .call (.root 0) (.lAppend (.leaf (.int 1))),
       .call (.root 0) (.lReset (.list () [.leaf (.int 9)])), .call (.root 0) (.lAppend (.leaf (.int 2))), .exitObj 0]
    let s2 := step s1 .exitCls
    (s1.store 0).isNone = true ∧
    (match s2.store 0 with | some d => Tr.same d (.list () [.leaf (.int 9), .leaf (.int 2)] : J) | none => false) = true ∧
    s2.entries.length = 0 := by
  decide +kernel

end SC.Props
