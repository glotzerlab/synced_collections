/-
C16 — values are copied in and out: no aliasing with user-held objects.
In the model a container's identity is its node id (synced nodes) — plain data (`J = Tr Unit`)
has no identity at all, so "is built-in data all the way down" is a typing fact.
-/
import SC.Lemmas.IdHist
namespace SC.Props
open SC Tr

variable {ι : Type}

/-- C16, copy-in: converting an argument — plain data of any depth, or data containing synced
nodes of this or another collection (`ι` arbitrary) — builds nodes whose identities all lie in
the fresh range `[n, n')` handed out by the allocator and are pairwise distinct: none of them is
an identity that existed before, in the argument or anywhere else. -/
theorem C16_copy_in_fresh (v : Tr ι) (n : Nat) :
    n ≤ (fromBase v n).2 ∧ (∀ i ∈ Tr.ids (fromBase v n).1, n ≤ i ∧ i < (fromBase v n).2) ∧
    (Tr.ids (fromBase v n).1).Nodup :=
  fromBase_fresh v n

/-- C16, assigning a synced node (a root or a child, `v : T` with its own identities `< n`)
into a position stores a copy: the stored node shares no identity with the assigned one. -/
theorem C16_assign_synced_is_copy (v : T) (n : Nat) (hold : ∀ i ∈ Tr.ids v, i < n) :
    ∀ i ∈ Tr.ids (fromBase v n).1, i ∉ Tr.ids v :=
  fun i hi hiv => Nat.not_lt.mpr ((fromBase_fresh v n).2.1 i hi).1 (hold i hiv)

/-- C16, copy-out: `()`, `values()`, `items()` (and `keys`, `repr`) return plain data — a value
of type `J`, which carries no node identity at any depth — for every dict and list node. -/
theorem C16_copy_out_plain_dict (i : Nat) (kvs : List (Key × T)) :
    (∃ j, dictRead i kvs .call = .ok (.plain j)) ∧ (∃ j, dictRead i kvs .values = .ok (.plain j)) ∧
    (∃ j, dictRead i kvs .items = .ok (.plain j)) :=
  ⟨⟨_, rfl⟩, ⟨_, rfl⟩, ⟨_, rfl⟩⟩
theorem C16_copy_out_plain_list (i : Nat) (xs : List T) :
    ∃ j, listRead i xs .call = .ok (.plain j) := ⟨_, rfl⟩

/-- C16, removed values: in a tree with pairwise distinct identities, the value removed by
`pop` / `del` / `popitem` shares no identity with what remains of the dict: it is detached, so
mutating it cannot show through the collection. -/
theorem C16_removed_detached (k : Key) (kvs : List (Key × T)) (old : T)
    (hn : (Tr.idsKV kvs).Nodup) (hl : Tr.lookup k kvs = some old) :
    ∀ i ∈ Tr.ids old, i ∉ Tr.idsKV (Tr.delKey k kvs) := by
  intro i hi
  obtain ⟨l₁, l₂, rfl, _, hdel⟩ := lookup_split hl
  simp only [idsKV_eq, List.flatMap_append, List.flatMap_cons, List.nodup_append] at hn
  rw [hdel, idsKV_eq, List.flatMap_append, List.mem_append]
  rintro (h | h)
  · exact hn.2.2 i h i (List.mem_append_left _ hi) rfl
  · exact hn.2.1.2.2 i hi i h rfl

/-- non-vacuity: a nested argument gets three fresh, distinct identities -/
example : Tr.ids (fromBase (.dict () [(.s "a", .list () [.dict () []])] : J) 7).1 = [7, 8, 9] := by decide +kernel

/-- C16 along histories: NO CONTAINER IS EVER STORED AT TWO PLACES.  After any history of public
calls (through any handle, any operation, any argument — also arguments that were read from the
collections themselves —, returning or raising), constructor calls and outside writers, the
container identities in the objects' trees are pairwise distinct: within a tree (no node sits at
two positions) and across objects (no node is shared by two collections).  Every container the
library stores is its own object; what is stored for an argument is always a new copy
(`C16_copy_in_fresh`), and neither the merge nor any operation body nor the store through a
handle ever duplicates a reference. -/
theorem C16_no_container_at_two_places_in_any_history (fams : List Fam) (history : List SStep) :
    (flatIds (srun (State.empty fams) history).objs).Nodup :=
  (srun_idOK history _ (empty_idOK fams)).nodup

/-- ... in particular two different objects never share a container -/
theorem C16_objects_share_nothing_in_any_history (fams : List Fam) (history : List SStep)
    (j k : Nat) (a b : Obj) (hjk : j < k) :
    let s := srun (State.empty fams) history
    s.objs[j]? = some a → s.objs[k]? = some b → ∀ i ∈ Tr.ids a.root, i ∉ Tr.ids b.root := by
  intro s ha hb
  exact flat_disjoint s.objs j k a b (srun_idOK history _ (empty_idOK fams)).nodup ha hb hjk

end SC.Props
