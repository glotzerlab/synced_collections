/-
C01 — write-through: every mutation is in the backend when the call returns.
-/
import SC.Lemmas.Seq
import SC.Props.C03
namespace SC.Props
open SC Tr

/-- C01: for every state reachable or not, every handle (the root object or a nested child
at any depth, attached or detached) and every mutating operation with any argument: if the
call returns normally, then the backend of the object that owns the handle holds exactly the
plain content of that object's in-memory tree — the whole tree, not just the node touched. -/
theorem C01_write_through (s : State) (h : Handle) (op : Op) (s' : State) (out : Out Nat)
    (hm : op.isRead = false) (hc : call s h op = (s', .ok out)) :
    ∃ oi isRoot o, handleOwner s h = some (oi, isRoot) ∧ s'.objs[oi]? = some o ∧
      s'.store o.res = some o.root.toBase := by
  rcases call_cases s h op with ⟨e, hc'⟩ | ⟨oi, isRoot, e, hc'⟩ | ⟨oi, isRoot, o, t0, s1, t, c⟩
  · cases hc'.symm.trans hc
  · cases hc'.symm.trans hc
  · -- the state returned is the saved one, and the object is still there after load and body
    have hs' : (call s h op).1 = s' := by rw [hc]
    simp only [c.call_eq, finishCall_fst, hm, Bool.false_eq_true, if_false] at hs'
    subst hs'
    have ho2 := List.getElem?_eq_getElem (l := (applyBody s1 h oi (runBody (s.fam o) t op s1.next)).objs)
      (i := oi) (by
        rw [applyBody_objs_length, ← c.hload, loadFor_objs_length]
        exact (List.getElem?_eq_some_iff.mp c.hobj).1)
    exact ⟨oi, isRoot, _, c.howner, by rw [saveRoot_objs]; exact ho2, saveRoot_store ho2⟩

/-- C01, content: what is written for a plain dict/list method is the built-in method
applied to the plain content (C03 naturality, repeated here for the dict case). -/
theorem C01_content_is_builtin_dict (kvs : List (Key × T)) (m : DictMut T) :
    dictMut (Tr.mapKV tb kvs) (m.map tb) = (dictMut kvs m).map (BodyRes.mapD tb) :=
  C03_dict_mutators_refine_builtin kvs m
theorem C01_content_is_builtin_list (xs : List T) (m : ListMut T) :
    listMut (Tr.mapL tb xs) (m.map tb) = (listMut xs m).map (BodyRes.mapLst tb) :=
  C03_list_mutators_refine_builtin xs m

/-- non-vacuity: a depth-2 state in which a mutator issued through a child handle returns
normally (so the theorem's hypotheses are met by a concrete history). -/
example :
    let fams : List Fam := [⟨[.requireStringKey, .jsonFormat], [.requireStringKey, .jsonFormat]⟩]
    let s0 := (openObj (State.empty fams) 0 true 0 none).1
    let s1 := (call s0 (.root 0) (.dSetitem (.s "a") (.dict () [(.s "b", .list () [])]))).1
    -- node ids: root 0, "a" ↦ 1, "b" ↦ 2
    let r := call s1 (.node 2) (.lAppend (.leaf (.int 7)))
    (match r.2 with | .ok _ => true | .error _ => false) = true ∧
    (match r.1.store 0 with
     | some d => Tr.same d (.dict () [(.s "a", .dict () [(.s "b", .list () [.leaf (.int 7)])])] : J)
     | none => false) = true := by
  decide +kernel

end SC.Props
