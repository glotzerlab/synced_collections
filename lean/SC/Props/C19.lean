/-
C19 — how a value is classified never depends on what was processed before.
-/
import SC.Lemmas.Resolver
import SC.Generated.Tables
namespace SC.Props
open SC SC.Resolver

/-- C19, the resolver: if the predicates are determined by the concrete type for every type
that may be cached, and the cache is correct (e.g. empty), then after ANY history of `get_type`
calls — any values, any order, any length — every answer equals the cache-free classification
of that value, and the cache is still correct. -/
theorem C19_cache_transparent (r : Res) (htd : TypeDetermined r) (hc : CacheOK r) (history : List Obj) :
    (runHistory r history).2 = history.map (classify r.preds) ∧ CacheOK (runHistory r history).1 :=
  ⟨(runHistory_correct history r htd hc).1, (runHistory_correct history r htd hc).2.1⟩

/-- a resolver that starts with an empty cache is correct -/
theorem C19_empty_cache_ok (preds : List (Nat × (Obj → Bool))) (bl : List Nat) (m : BlockMode) :
    CacheOK ⟨preds, bl, m, []⟩ := by
  intro ty c h; simp [lookup] at h

/-- C19, repeating after a warm-up: the answer for `o` after any warm-up history equals the
answer in a fresh process (empty cache). -/
theorem C19_outcome_history_free (preds : List (Nat × (Obj → Bool))) (bl : List Nat) (m : BlockMode)
    (htd : TypeDetermined ⟨preds, bl, m, []⟩) (warmup : List Obj) (o : Obj) :
    (getType (runHistory ⟨preds, bl, m, []⟩ warmup).1 o).2 = (getType ⟨preds, bl, m, []⟩ o).2 := by
  have h := runHistory_correct warmup ⟨preds, bl, m, []⟩ htd (C19_empty_cache_ok preds bl m)
  have h1 := getType_correct _ o h.2.2.1 h.2.1
  have h2 := getType_correct ⟨preds, bl, m, []⟩ o htd (C19_empty_cache_ok preds bl m)
  rw [h1.1, h2.1, h.2.2.2]

/-- the premise from predicates: enough that each predicate is type-determined on cacheable types -/
theorem C19_type_determined_of_preds (r : Res)
    (h : ∀ p ∈ r.preds, ∀ o1 o2 : Obj, o1.ty = o2.ty → blocked r o1 = false → p.2 o1 = p.2 o2) :
    TypeDetermined r := by
  intro o1 o2 hty hb
  unfold classify
  rw [find?_congr (fun p hp => h p hp o1 o2 hty hb)]

/-- decidable side condition on the regenerated resolver table: every predicate is a boolean
combination of `isinstance` tests (type-determined everywhere), or it depends on the instance
only for `ndarray` and its subclasses AND `ndarray` is blocklisted AND the blocklist test covers
subclasses. -/
def resolverOK (mode : BlocklistMode) (r : ResolverInfo) : Bool :=
  r.preds.all (fun p =>
    p.2 == .typeDetermined ||
    (p.2 == .instanceDependentOnNdarray && r.blocklist.contains "ndarray" && mode == .subclassAware) ||
    (p.2 == .instanceDependentOnNdarray && !Generated.numpyPresent && r.blocklist.isEmpty))

/-- OBLIGATION on the current source: all module-level resolvers (validators, JSON validators,
collection / mapping / sequence resolvers). -/
theorem C19_resolvers_table :
    ∀ r ∈ Generated.resolvers, resolverOK Generated.blocklistMode r = true := by decide +kernel

/-- the model exhibits the defect the property excludes: with an exact-type blocklist, a
subclass of the blocklisted type is cached under the category of the first instance seen. -/
theorem C19_exact_blocklist_is_history_dependent :
    let scalarOrSeq : List (Nat × (Obj → Bool)) := [(0, fun o => decide (o.inst > 0)), (1, fun o => decide (o.inst = 0))]
    let r : Res := ⟨scalarOrSeq, [7], .exactType, []⟩
    let sub0 : Obj := ⟨8, true, 0⟩      -- 0-d instance of a subclass (type 8) of the blocklisted type 7
    let sub1 : Obj := ⟨8, true, 1⟩      -- 1-d instance of the same subclass
    (getType (getType r sub0).1 sub1).2 ≠ (getType r sub1).2 ∧
    (getType (getType { r with mode := .subclassAware } sub0).1 sub1).2 = (getType r sub1).2 := by
  decide +kernel

end SC.Props
