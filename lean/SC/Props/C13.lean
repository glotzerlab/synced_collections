/-
C13 — buffered collections stay consistent under concurrent threads.
-/
import SC.Lemmas.Conc
import SC.Lemmas.BufBound
namespace SC.Props
open SC.Conc

/-- a predicate that every machine step keeps holds at every moment of every concurrent execution
of operations made of machine steps (`Conc.run_keeps`: the machine only applies actions of its
programs) -/
theorem interleaving_keeps (P : B.State → Prop) (hstep : ∀ s st, P s → P (B.step s st))
    (s0 : B.State) (hs : P s0) (progs : List (List (List B.Step))) (sched : List Nat) :
    P (run (init s0 (progs.map (·.map (·.map (fun st s => B.step s st))))) sched).σ := by
  refine run_keeps P _ (fun p hp op hop f hf s => ?_) s0 hs sched
  obtain ⟨_, _, rfl⟩ := List.mem_map.mp hp
  obtain ⟨_, _, rfl⟩ := List.mem_map.mp hop
  obtain ⟨st, _, rfl⟩ := List.mem_map.mp hf
  exact hstep s st

/-- C13: the buffered mutators hold the class-wide buffer lock from before their load to after
their save (including any forced flush the save triggers), so they are operations of the
one-lock machine whose shared state is the whole buffer machine state (`B.State`: disk, buffer
entries, size, registry, every object's memory).  Instantiating the linearizability theorem:
for every number of threads, every buffered operation sequence per thread and every schedule,
the final buffer-machine state is that of the serial execution in lock order ... -/
theorem C13_buffer_serialised (s0 : B.State) (progs : List (List (Conc.Op B.State))) (sched : List Nat)
    (hd : Done (run (init s0 progs) sched)) :
    (run (init s0 progs) sched).σ = serial s0 (run (init s0 progs) sched).log ∧
    ∀ t p, progs[t]? = some p →
      ((run (init s0 progs) sched).log.filter (·.1 = t)).map (·.2) = p :=
  linearizable s0 progs sched hd

/-- ... and since every step of the buffer machine keeps the size invariant (C15), so does every
concurrent execution of operations made of machine steps: no interleaving can corrupt the
accounting.  (The proof does not use `hd`: `Conc.run_keeps` gives it at every moment of every
execution.) -/
theorem C13_accounting_survives_interleaving (s0 : B.State) (hs : B.SizeOK s0)
    (progs : List (List (List B.Step))) (sched : List Nat)
    (hd : Done (run (init s0 (progs.map (·.map (·.map (fun st s => B.step s st))))) sched)) :
    B.SizeOK (run (init s0 (progs.map (·.map (·.map (fun st s => B.step s st))))) sched).σ :=
  interleaving_keeps B.SizeOK (fun s st h => (B.keeps_step s st).sizeOK h) s0 hs progs sched

/-- C13 with the full C15 invariant: after ANY concurrent execution of buffered operations (each
holding the buffer lock) the size is exact, within the capacity, every buffered file has a buffered
registered holder — hence outside all contexts the buffer is empty and the size 0 -/
theorem C13_bound_survives_interleaving (s0 : B.State) (hs : B.Good s0)
    (progs : List (List (List B.Step))) (sched : List Nat)
    (hd : Done (run (init s0 (progs.map (·.map (·.map (fun st s => B.step s st))))) sched)) :
    B.Good (run (init s0 (progs.map (·.map (·.map (fun st s => B.step s st))))) sched).σ :=
  interleaving_keeps B.Good B.good_step s0 hs progs sched

end SC.Props
