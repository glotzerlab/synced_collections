/-
C03 — operations refine built-in dict / list: same results, same errors, same content.
-/
import SC.Lemmas.Natural
import SC.Lemmas.Tree
import SC.Seq
namespace SC.Props
open SC Tr

/-- forgetting identities (`_to_base` on every child) -/
abbrev tb : Nat → Unit := fun _ => ()

/-- C03, dict mutators: for every synced dict (children of any shape and depth) and every
plain `dict` method the library forwards to (`__setitem__`, `__delitem__`, `pop`,
`popitem`, `clear`) with any argument, the built-in operation on the plain content
raises exactly when the synced one does, and otherwise yields the plain content,
the plain return value and the plain removed elements of the synced result. -/
theorem C03_dict_mutators_refine_builtin (kvs : List (Key × T)) (m : DictMut T) :
    dictMut (Tr.mapKV tb kvs) (m.map tb) = (dictMut kvs m).map (BodyRes.mapD tb) :=
  dictMut_natural tb kvs m

/-- C03, list mutators: the same for `__setitem__` (index and every slice, incl. extended
slices and out-of-range bounds), `__delitem__`, `insert`, `append`, `extend`/`+=`,
`remove`, `clear`, `pop`, `reverse`. -/
theorem C03_list_mutators_refine_builtin (xs : List T) (m : ListMut T) :
    listMut (Tr.mapL tb xs) (m.map tb) = (listMut xs m).map (BodyRes.mapLst tb) :=
  listMut_natural tb xs m

/-- C03, dict reads: item access, membership, `len`, iteration, `()`, `repr`, `keys`,
`values`, `items`, `==`, `!=`, `get` return on a synced dict what they return on its
plain content (child objects correspond to their plain content). -/
theorem C03_dict_reads_refine_builtin (i : Nat) (kvs : List (Key × T)) (r : DictRead) :
    dictRead () (Tr.mapKV tb kvs) r = (dictRead i kvs r).map (Out.map tb) :=
  dictRead_natural tb i kvs r

/-- C03, list reads and comparisons: item / slice access, membership, `len`, iteration,
`reversed`, `index`, `count`, `()`, `repr`, `==`, `!=`, `<`, `<=`, `>`, `>=` (with their
`TypeError` cases) agree with the built-in list of the plain content. -/
theorem C03_list_reads_refine_builtin (i : Nat) (xs : List T) (r : ListRead) :
    listRead () (Tr.mapL tb xs) r = (listRead i xs r).map (Out.map tb) :=
  listRead_natural tb i xs r

/-- the comparison operators decide from plain content only -/
theorem C03_cmp (c : Cmp) (i : Nat) (xs : List T) (v : J) :
    Tr.cmp c (Tr.list i xs) v = Tr.cmp c (Tr.list i xs).toBase v :=
  (cmp_map_left tb c (Tr.list i xs) v).symm

/-- C03, errors leave content unchanged: if a plain dict/list method raises (`KeyError`,
`IndexError`, `ValueError` for an absent element or a size mismatch), the node is
exactly what it was, nothing fell out of it and no identity was consumed. -/
theorem C03_error_leaves_unchanged_dict (t : T) (i : Nat) (kvs : List (Key × T)) (m : DictMut T)
    (n : Nat) (e : Err) (h : (dmutRes t i kvs m n).err = some e) :
    (dmutRes t i kvs m n).node = t ∧ (dmutRes t i kvs m n).det = [] := by
  unfold dmutRes at *
  cases hd : dictMut kvs m with
  | error e' => simp
  | ok r => simp [hd] at h
theorem C03_error_leaves_unchanged_list (t : T) (i : Nat) (xs : List T) (m : ListMut T)
    (n : Nat) (e : Err) (h : (lmutRes t i xs m n).err = some e) :
    (lmutRes t i xs m n).node = t ∧ (lmutRes t i xs m n).det = [] := by
  unfold lmutRes at *
  cases hd : listMut xs m with
  | error e' => simp
  | ok r => simp [hd] at h

/-- C03 at the level of one call body: storing a value through `__setitem__` on a synced
dict node yields, as plain content, exactly `dict.__setitem__` on the plain content with
the plain value (the conversion `_from_base` is content-preserving). -/
theorem C03_setitem_content (fam : Fam) (i : Nat) (kvs : List (Key × T)) (k : Key) (v : J) (n : Nat) :
    (runBody fam (.dict i kvs) (.dSetitem k v) n).node.toBase
      = .dict () (Tr.setKey k v (Tr.mapKV tb kvs)) ∧
    (runBody fam (.dict i kvs) (.dSetitem k v) n).err = none := by
  have hv : (fromBase v n).1.map tb = v := (toBase_fromBase v n).trans (toBase_J v)
  refine ⟨?_, rfl⟩
  show (Tr.dict i (Tr.setKey k (fromBase v n).1 kvs)).toBase = _
  rw [toBase_dict, ← setKey_mapKV, hv]

end SC.Props
