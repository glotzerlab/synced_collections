/-
C04 — writes through any handle never clobber changes made via other handles.
-/
import SC.Lemmas.Refine
import SC.Lemmas.WfHist
import SC.Lemmas.OpTable
import SC.Generated.Tables
namespace SC.Props
open SC

/-- the synchronisation bracket a mutating method must have in the source: its body runs
inside the root's load-and-save context (or, for clear/reset, the overwrite context which is
that same context for nested collections), it does not rebind `_data`, and it is defined
in the repository rather than assembled by an ABC mix-in from several bracketed steps. -/
def BracketOK (a : ApiEntry) : Bool :=
  !a.mutates ||
  (a.definedInRepo &&
    match a.summary with
    | none => false
    | some ms =>
      (ms.ctxs.head? == some .loadAndSave || ms.ctxs.head? == some .overwrite) && !ms.rebindsData)

/-- OBLIGATION on the current source: every public mutator of every concrete class. -/
theorem C04_brackets_table :
    ∀ f ∈ Generated.families, ∀ c ∈ f.classes, ∀ a ∈ c.api, BracketOK a = true := by decide +kernel

/-- C04, model side: an operation issued through a nested child handle (`isRoot = false`)
— any mutator, `clear` and `reset` included — is preceded by a load of the owning root
from the backend, so its body is applied to the backend's current content merged into
memory, not to a stale copy. -/
theorem C04_child_ops_load_first (s : State) (oi : Nat) (op : Op) (hs : op.skipsLoad = false) :
    loadFor s oi false op = loadRoot s oi := by
  simp [loadFor, hs]

/-- at the root only the operations that replace the entire content skip the load -/
theorem C04_root_ops_load_first (s : State) (oi : Nat) (op : Op) (hs : op.skipsLoad = false)
    (ho : op.isOverwrite = false) : loadFor s oi true op = loadRoot s oi := by
  simp [loadFor, hs, ho]

/-- ... and the load is the merge of the backend content into the object's tree -/
theorem C04_load_is_merge (s : State) (oi : Nat) (o : Obj) (d : J)
    (ho : s.objs[oi]? = some o) (hd : s.store o.res = some d) :
    ((loadRoot s oi).1.objs[oi]?).map (·.root) = some (updNode (s.fam o) o.root d s.next).val := by
  rw [loadRoot_obj ho hd]
  rfl

/-- OBLIGATION tying the hand-written operation model to the current source: for every concrete
class, every mutating operation of the model has a method of that name defined in the repository
whose outermost context is the overwrite context exactly for the operations the model treats as
overwrites (clear, reset: no load at root level), and which validates its argument before the
first `with` exactly for the operations the model pre-validates (`Op.isOverwrite_kind`,
`preValidate_none_of_kind` connect the kinds to `call`). -/
theorem C04_model_ops_match_table :
    ∀ f ∈ Generated.families, ∀ c ∈ f.classes, OpsMatch c = true := by decide +kernel

/-- C04 (with C01 and C02) as ONE refinement step.  Object `oi` is bound to a resource whose current
content is `d` — written by whoever: this object, another object, an outside writer.  `oi`'s own
memory is ARBITRARY.  For every operation that loads first (all but root-level clear/reset) and
passes its pre-validation: the call returns what the operation's body returns on a tree `t` that
has exactly the content of `d`, and a mutator leaves the backend holding exactly the body's result
on `t`.  Result and new backend content are functions of the backend's current content and the
operation alone — whatever this handle knew before: nothing another handle wrote is clobbered. -/
theorem C04_call_runs_on_backend_content (s : State) (oi : Nat) (o : Obj) (d : J) (op : Op)
    (ho : s.objs[oi]? = some o) (hst : s.store o.res = some d)
    (hv : Valid (s.fam o) d) (hwd : d.wf = true) (hwt : o.root.wf = true) (hk : sameKind o.root d = true)
    (hno : op.isOverwrite = false) (hns : op.skipsLoad = false)
    (hpre : preValidate (s.fam o) o.root.isDict op = none) :
    let t := (updNode (s.fam o) o.root d s.next).val
    let r := runBody (s.fam o) t op (loadRoot s oi).1.next
    Eqv t d ∧ t.wf = true ∧
    (call s (.root oi) op).2 = (match r.err with | some e => .error e | none => .ok r.out) ∧
    (op.isRead = false → (call s (.root oi) op).1.store o.res = some r.node.toBase) ∧
    (op.isRead = true → (call s (.root oi) op).1.stores = s.stores) :=
  call_root_refines s oi o d op ho hst hv hwd hwt hk hno hns hpre

/-- the instance the property names: `obj[k] = v` through a stale object keeps every other key the
backend currently has — each with the content it has there (`Eqv`: same structure, scalars, key
sets) — and sets `k` to `v` -/
theorem C04_setitem_keeps_other_keys (s : State) (oi : Nat) (o : Obj) (i : Nat) (kvs0 : List (Key × T))
    (dkvs : List (Key × J)) (k : Key) (v : J)
    (ho : s.objs[oi]? = some o) (hroot : o.root = .dict i kvs0) (hst : s.store o.res = some (.dict () dkvs))
    (hv : Valid (s.fam o) (Tr.dict () dkvs : J)) (hwd : Tr.wfKV dkvs = true) (hwt : o.root.wf = true)
    (hpre : validateKV (s.fam o).dictV [(k, v)] = none) :
    ∃ kvs' : List (Key × J), (call s (.root oi) (.dSetitem k v)).1.store o.res = some (.dict () kvs') ∧
      Tr.lookup k kvs' = some v ∧
      ∀ k' w, k' ≠ k → Tr.lookup k' dkvs = some w → ∃ x : T, Tr.lookup k' kvs' = some x.toBase ∧ Eqv x w := by
  obtain ⟨heqv, _, _, hstore, _⟩ := call_root_refines s oi o (.dict () dkvs) (.dSetitem k v) ho hst hv hwd hwt
    (by rw [hroot]; rfl) rfl rfl (by rw [hroot]; exact hpre)
  -- the merged tree is a dict with the keys and contents of the backend's
  obtain ⟨j, tkvs, ht, hsome, -⟩ := eqv_dict heqv
  refine ⟨Tr.mapKV (fun _ => ()) (Tr.setKey k (fromBase v (loadRoot s oi).1.next).1 tkvs), ?_, ?_, ?_⟩
  · rw [hstore rfl, ht]; rfl
  · rw [lookup_mapKV, lookup_setKey_same]
    exact congrArg some ((toBase_fromBase v _).trans (toBase_J v))
  · intro k' w hne hw
    obtain ⟨x, hx, hxw⟩ := hsome k' w hw
    exact ⟨x, by rw [lookup_mapKV, lookup_setKey_other k k' _ tkvs hne, hx]; rfl, hxw⟩

/-- non-vacuity, the scenario of the property on the machine: two objects on one resource; A adds
key "a"; B — whose memory is stale (empty) — adds key "b": the backend has both. -/
example :
    let fam : Fam := ⟨[.requireStringKey, .jsonFormat], [.requireStringKey, .jsonFormat]⟩
    let s0 := (openObj (openObj (State.empty [fam]) 0 true 0 none).1 0 true 0 none).1
    let s1 := (call s0 (.root 0) (.dSetitem (.s "a") (.leaf (.int 1)))).1
    let s2 := (call s1 (.root 1) (.dSetitem (.s "b") (.leaf (.int 2)))).1
    (match s2.store 0 with
     | some d => Tr.same d (.dict () [(.s "a", .leaf (.int 1)), (.s "b", .leaf (.int 2))] : J)
     | none => false) = true := by
  decide +kernel

/-- C04 for a NESTED CHILD HANDLE (the property's "any handle"): the user holds the nested collection
with identity `id`, which sits at path `p` — any depth — of object `oi`'s tree.  The backend
currently holds `d` — written by whoever — with containers of the same kind along `p`; `oi`'s memory
is otherwise ARBITRARY.  A call through the handle first loads the ROOT; the handle then still
denotes the node at `p` (same identity), whose content is exactly the data at `p`; the body runs on
that node; and a mutator leaves the backend holding the backend's content with the body's result AT
PATH `p` — every position outside `p` exactly as the backend had it (`Tr.setSub`; `Eqv t d`).
Hypotheses on identities: pairwise distinct in `oi`'s tree and below the counter (kept by every
merge: `C02_merge_keeps_identities_distinct`), and `id` occurs in no object before `oi`. -/
theorem C04_child_call_runs_on_backend_content (s : State) (oi id : Nat) (o : Obj) (d : J) (p : List Seg)
    (c : T) (op : Op)
    (ho : s.objs[oi]? = some o) (hst : s.store o.res = some d) (hown : s.ownerOf id = some oi)
    (hsub : Tr.sub p o.root = some c) (hid : c.id? = some id)
    (hnd : (Tr.ids o.root).Nodup) (hlt : ∀ i ∈ Tr.ids o.root, i < s.next)
    (hother : ∀ j o', j < oi → s.objs[j]? = some o' → id ∉ Tr.ids o'.root)
    (hv : Valid (s.fam o) d) (hwd : d.wf = true) (hwt : o.root.wf = true)
    (hk : kindsMatch p o.root d = true) (hns : op.skipsLoad = false)
    (hpre : preValidate (s.fam o) c.isDict op = none) :
    ∃ c' dc, Tr.sub p (updNode (s.fam o) o.root d s.next).val = some c' ∧ c'.id? = some id ∧
      Tr.sub p d = some dc ∧ Eqv c' dc ∧
      Eqv (updNode (s.fam o) o.root d s.next).val d ∧
      (call s (.node id) op).2 =
        (match (runBody (s.fam o) c' op (loadRoot s oi).1.next).err with
         | some e => .error e
         | none => .ok (runBody (s.fam o) c' op (loadRoot s oi).1.next).out) ∧
      (op.isRead = false → (call s (.node id) op).1.store o.res =
        some (Tr.setSub p (updNode (s.fam o) o.root d s.next).val.toBase
          (runBody (s.fam o) c' op (loadRoot s oi).1.next).node.toBase)) ∧
      (op.isRead = true → (call s (.node id) op).1.stores = s.stores) :=
  call_child_refines s oi id o d p c op ho hst hown hsub hid hnd hlt hother hv hwd hwt hk hns hpre

/-- what "at path `p`, everything else as it was" means for content: the replaced position holds
the new content ... -/
theorem C04_setSub_same (p : List Seg) (t c new : J) (h : Tr.sub p t = some c) :
    Tr.sub p (Tr.setSub p t new) = some new := sub_setSub_same p t c new h

/-- non-vacuity of the child-handle step: object 0 holds (stale) `{"a": [1, {"k": 1}], "b": 2}`,
the user holds the inner dict (identity 2, path a/1); an outside writer replaced the file by
`{"c": null, "a": [true, {"z": []}, 9]}`; `inner["q"] = 7` leaves the file with the outside
writer's content plus `q` in the inner dict.  All hypotheses of the theorem hold in this state. -/
example :
    let fam : Fam := ⟨[.requireStringKey, .jsonFormat], [.requireStringKey, .jsonFormat]⟩
    let d0 : J := .dict () [(.s "a", .list () [.leaf (.int 1), .dict () [(.s "k", .leaf (.int 1))]]), (.s "b", .leaf (.int 2))]
    let d1 : J := .dict () [(.s "c", .leaf .null), (.s "a", .list () [.leaf (.bool true), .dict () [(.s "z", .list () [])], .leaf (.int 9)])]
    let s0 := (openObj (State.empty [fam]) 0 true 0 (some d0)).1
    let s1 := extWrite s0 0 d1
    let p : List Seg := [.key (.s "a"), .idx 1]
    ((s1.objs[0]?).map (fun o => kindsMatch p o.root d1 && decide (Tr.ids o.root).Nodup &&
        (Tr.ids o.root).all (· < s1.next) && ((Tr.sub p o.root).bind Tr.id? == some 2) && o.root.wf)) = some true ∧
    s1.ownerOf 2 = some 0 ∧ d1.wf = true ∧
    (match (call s1 (.node 2) (.dSetitem (.s "q") (.leaf (.int 7)))).1.store 0 with
     | some x => Tr.same x (.dict () [(.s "a", .list () [.leaf (.bool true),
          .dict () [(.s "z", .list () []), (.s "q", .leaf (.int 7))], .leaf (.int 9)]), (.s "c", .leaf .null)] : J)
     | none => false) = true := by
  decide +kernel

/-- THE IDENTITY HYPOTHESES HOLD IN EVERY REACHABLE STATE.  After any history of public calls
(through any handles, any operations and arguments, returning or raising), constructor calls and
outside writers, the identities in the objects' trees are pairwise distinct — within each tree and
across objects — and below the counter.  (Induction over the history; per step: the merge
`updNode_ids`, every operation body `runBody_ids`, the store through a handle `replace_ids`.) -/
theorem C04_identities_distinct_in_every_history (fams : List Fam) (history : List SStep) :
    IdOK (srun (State.empty fams) history) :=
  srun_idOK history _ (empty_idOK fams)

/-- ... and every identity in an object's tree is recorded as allocated for that object (the
bookkeeping by which a nested child finds the root that loads and saves for it), in every
reachable state. -/
theorem C04_child_knows_its_root_in_every_history (fams : List Fam) (history : List SStep)
    (oi : Nat) (o : Obj) (p : List Seg) (c : T) (id : Nat) :
    let s := srun (State.empty fams) history
    s.objs[oi]? = some o → Tr.sub p o.root = some c → c.id? = some id → s.ownerOf id = some oi := by
  intro s ho hsub hid
  have hown := (srun_ownOK history _ (empty_idOK fams) (empty_ownOK fams)).2
  exact hown.owner oi o ho id (id_mem_of_sub p o.root c id hsub hid)

/-- ... and keys are unique everywhere (objects' trees and backends) in every state reachable by a
history whose outside data — arguments, constructor data, outside writers' content — has no
duplicate keys (automatic for Python values; `J` association lists could have them). -/
theorem C04_keys_unique_in_every_history (fams : List Fam) (history : List SStep)
    (ha : ∀ st ∈ history, SStep.argsWf st = true) : WfOK (srun (State.empty fams) history) :=
  srun_wfOK history _ (empty_wfOK fams) ha

/-- C04, ROOT HANDLE, IN ANY REACHABLE STATE: every state hypothesis of
`C04_call_runs_on_backend_content` is discharged by the history invariants.  What remains is about
the backend's current content `d` only: valid data of the object's kind. -/
theorem C04_call_in_any_history (fams : List Fam) (history : List SStep)
    (ha : ∀ st ∈ history, SStep.argsWf st = true) (oi : Nat) (o : Obj) (d : J) (op : Op) :
    let s := srun (State.empty fams) history
    s.objs[oi]? = some o → s.store o.res = some d → Valid (s.fam o) d → sameKind o.root d = true →
    op.isOverwrite = false → op.skipsLoad = false → preValidate (s.fam o) o.root.isDict op = none →
    let t := (updNode (s.fam o) o.root d s.next).val
    let r := runBody (s.fam o) t op (loadRoot s oi).1.next
    Eqv t d ∧ t.wf = true ∧
    (call s (.root oi) op).2 = (match r.err with | some e => .error e | none => .ok r.out) ∧
    (op.isRead = false → (call s (.root oi) op).1.store o.res = some r.node.toBase) ∧
    (op.isRead = true → (call s (.root oi) op).1.stores = s.stores) := by
  intro s ho hst hv hk hno hns hpre
  have hw := C04_keys_unique_in_every_history fams history ha
  exact call_root_refines s oi o d op ho hst hv (store_wf hw hst) (hw.objs o (List.mem_of_getElem? ho)) hk hno hns hpre

/-- C04, NESTED CHILD HANDLE AT ANY DEPTH, IN ANY REACHABLE STATE: every state hypothesis of
`C04_child_call_runs_on_backend_content` — distinct identities, ownership, unique keys — is
discharged by the history invariants.  What remains is about the backend's current content `d`
only: valid data with containers of the same kind along the handle's path (otherwise the handle is
detached — the converse case, decided by the oracles). -/
theorem C04_child_call_in_any_history (fams : List Fam) (history : List SStep)
    (ha : ∀ st ∈ history, SStep.argsWf st = true)
    (oi id : Nat) (o : Obj) (d : J) (p : List Seg) (c : T) (op : Op) :
    let s := srun (State.empty fams) history
    s.objs[oi]? = some o → s.store o.res = some d →
    Tr.sub p o.root = some c → c.id? = some id →
    Valid (s.fam o) d → kindsMatch p o.root d = true → op.skipsLoad = false →
    preValidate (s.fam o) c.isDict op = none →
    ∃ c' dc, Tr.sub p (updNode (s.fam o) o.root d s.next).val = some c' ∧ c'.id? = some id ∧
      Tr.sub p d = some dc ∧ Eqv c' dc ∧
      Eqv (updNode (s.fam o) o.root d s.next).val d ∧
      (call s (.node id) op).2 =
        (match (runBody (s.fam o) c' op (loadRoot s oi).1.next).err with
         | some e => .error e
         | none => .ok (runBody (s.fam o) c' op (loadRoot s oi).1.next).out) ∧
      (op.isRead = false → (call s (.node id) op).1.store o.res =
        some (Tr.setSub p (updNode (s.fam o) o.root d s.next).val.toBase
          (runBody (s.fam o) c' op (loadRoot s oi).1.next).node.toBase)) ∧
      (op.isRead = true → (call s (.node id) op).1.stores = s.stores) := by
  intro s ho hst hsub hid hv hk hns hpre
  have hok := C04_identities_distinct_in_every_history fams history
  have hw := C04_keys_unique_in_every_history fams history ha
  refine call_child_refines s oi id o d p c op ho hst
    (C04_child_knows_its_root_in_every_history fams history oi o p c id ho hsub hid) hsub hid
    (hok.obj ho).1 (hok.obj ho).2 ?_ hv
    (store_wf hw hst) (hw.objs o (List.mem_of_getElem? ho)) hk hns hpre
  intro j o' hj ho' hin
  exact flat_disjoint s.objs j oi o' o hok.nodup ho' ho hj id hin (id_mem_of_sub p o.root c id hsub hid)

/-- non-vacuity: a history — construct with nested data, outside rewrite, write through the nested
child obtained from a read — after which the hypotheses hold and the call lands at the path -/
example :
    let fam : Fam := ⟨[.requireStringKey, .jsonFormat], [.requireStringKey, .jsonFormat]⟩
    let d0 : J := .dict () [(.s "a", .list () [.leaf (.int 1), .dict () [(.s "k", .leaf (.int 1))]])]
    let d1 : J := .dict () [(.s "a", .list () [.leaf (.bool true), .dict () [(.s "z", .list () [])]])]
    let s := srun (State.empty [fam]) [.openObj true 0 (some d0), .ext 0 d1,
      .call (.node 2) (.dSetitem (.s "q") (.leaf (.int 7))), .ext 0 d0]
    ([SStep.openObj true 0 (some d0), .ext 0 d1,
      .call (.node 2) (.dSetitem (.s "q") (.leaf (.int 7))), .ext 0 d0].all SStep.argsWf) = true ∧
    ((s.objs[0]?).map (fun o => kindsMatch [.key (.s "a"), .idx 1] o.root d0 && o.root.wf &&
        ((Tr.sub [.key (.s "a"), .idx 1] o.root).bind Tr.id? == some 2))) = some true ∧
    s.ownerOf 2 = some 0 := by
  decide +kernel

end SC.Props
