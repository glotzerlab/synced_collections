/-
C08 — a crash during a save leaves each JSON file wholly old or wholly new.
The theorems are about the sequence of file operations the save path issues (`SC/FS.lean`);
that the real code issues exactly these sequences is checked on every run (trace
correspondence), and `os.replace` being atomic is the assumption stated as `exec (.replace ..)`.
-/
import SC.Lemmas.FS
namespace SC.Props
open SC.FS

/-- C08, one save in atomic mode (`write_concern=True` or threading support active): for every
disk, every target, every blob of any length and EVERY crash point — between any two
operations, with any prefix of the bytes handed to `write()` in the file — the target holds its
complete previous content (or is still missing, if it was) or the complete new blob. -/
theorem C08_atomic_save (d : Disk) (target tmp : Path) (blob : Bytes) (hne : tmp ≠ target)
    (hclean : d.pend target = []) :
    ∀ c ∈ crashContents d (saveSteps true target tmp blob) target, c = d.get target ∨ c = some blob :=
  atomic_save_old_or_new d target tmp blob hne hclean

/-- ... and an uninterrupted save installs the blob and leaves no temporary file behind. -/
theorem C08_save_completes (d : Disk) (target tmp : Path) (blob : Bytes) (hne : tmp ≠ target) :
    (run d (saveSteps true target tmp blob)).get target = some blob ∧
    (run d (saveSteps true target tmp blob)).get tmp = none :=
  ⟨(atomic_save_completes d target tmp blob hne).1, (atomic_save_completes d target tmp blob hne).2.2⟩

/-- C08, buffer flushes of any number of files (either strategy — both flush through the same
save): if the flushed files are pairwise distinct and no temporary name is one of them, then
at every crash point of the whole flush EVERY flushed file is wholly old or wholly new. -/
theorem C08_flush_atomic (items : List FlushItem) (hd : (items.map (·.target)).Nodup)
    (ht : ∀ a ∈ items, ∀ b ∈ items, a.tmp ≠ b.target) (d : Disk)
    (hclean : ∀ it ∈ items, d.pend it.target = []) :
    ∀ it ∈ items, ∀ c ∈ crashContents d (flushSteps true items) it.target,
      c = d.get it.target ∨ c = some it.blob :=
  flush_old_or_new items hd ht d hclean

/-- C08, unserialisable content: serialisation comes first; when it raises no file operation is
issued, so in every write mode the only thing a crash can observe is the untouched file. -/
theorem C08_unserialisable_harmless (atomic : Bool) (d : Disk) (target tmp : Path) :
    crashContents d (saveProgram atomic target tmp none) target = observe d target := rfl

/-- the model can exhibit the failures the property excludes (so the theorems are about a crash
model strong enough to break an unsafe save).  Plain mode: a crash right after the truncating open
leaves the target empty. -/
theorem C08_plain_mode_not_atomic :
    ∃ c ∈ crashContents (⟨[(0, [1, 2, 3])], []⟩ : Disk) (saveSteps false 0 9 [7, 8]) 0,
      c ≠ some [1, 2, 3] ∧ c ≠ some [7, 8] := by
  refine ⟨some [], ?_, ?_⟩ <;> decide +kernel

/-- Installing the temporary file before closing it: the pending bytes travel with the file, so the
target can be seen with a strict prefix of the new content. -/
theorem C08_replace_before_close_not_atomic :
    ∃ c ∈ crashContents (⟨[(0, [1, 2, 3])], []⟩ : Disk)
        [.openTrunc 9, .write 9 [7, 8], .replace 9 0, .close 0] 0,
      c ≠ some [1, 2, 3] ∧ c ≠ some [7, 8] := by
  refine ⟨some [7], ?_, ?_⟩ <;> decide +kernel

end SC.Props
