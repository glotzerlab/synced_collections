/-
C12 — every JSON value is accepted and round-trips exactly.
-/
import SC.Props.C11
import SC.Lemmas.Merge
namespace SC.Props
open SC Tr

variable {ι : Type}

theorem clean_le_fam (f : FamInfo) :
    (∀ k, (cleanKeyReq f.attr).ok k = true → (famKeyReq f).ok k = true) ∧
    (∀ s, LeafReq.json.ok s = true → (famLeafReq f).ok s = true) := by
  refine ⟨fun k hk => hk, fun s hs => ?_⟩
  unfold famLeafReq
  split
  · rfl
  · exact hs

/-- C12, acceptance: for every family of the current source, a value whose keys are all
strings (dot-free for attribute-access families) and whose leaves are all JSON scalars —
of any depth and width — is accepted by the validators of the dict class *and* of the
list class, hence by every entry point (all of them validate with one of the two). -/
theorem C12_accept {f : FamInfo} (hf : f ∈ Generated.families) (t : Tr ι)
    (hc : clean f.attr t = true) :
    validate f.toFam.dictV t = none ∧ validate f.toFam.listV t = none := by
  have hall := all_mono (clean_le_fam f).1 (clean_le_fam f).2 t (clean_eq_all f.attr t ▸ hc)
  exact ⟨(C11_validate_exact hf t).1.2 hall, (C11_validate_exact hf t).2.2 hall⟩

/-- the same for the `{key: value}` form `__setitem__`/`setdefault`/`update` validate -/
theorem C12_accept_item {f : FamInfo} (hf : f ∈ Generated.families) (k : Key) (v : Tr ι)
    (hk : cleanKV f.attr [(k, v)] = true) :
    validateKV f.toFam.dictV [(k, v)] = none := by
  rw [validateKV_none, (famReq_of_table hf).1.1, (famReq_of_table hf).1.2]
  exact allKV_mono (clean_le_fam f).1 (clean_le_fam f).2 _ (cleanKV_eq_allKV f.attr _ ▸ hk)

/-- C12, conversion: turning any value into a synced tree and back is the identity on
content — same structure, same key order, the same scalar (constructor and payload) at
every leaf.  Unbounded depth and width. -/
theorem C12_roundtrip_fromBase (v : Tr ι) (n : Nat) : (fromBase v n).1.toBase = v.toBase :=
  toBase_fromBase v n

/-- C12, the merge-based entry points (`update`, `reset`, and every reload): what ends up in the
tree is the value that was stored, with the SAME scalar constructor at every leaf — `1`, `True`
and `1.0` are different leaves of `Eqv` — for every value with unique keys, over any previous
content. -/
theorem C12_roundtrip_merge (fam : Fam) (v : Tr ι) (t : T) (n : Nat) (hv : v.wf = true) (ht : t.wf = true)
    (hnn : v ≠ .leaf .null) (herr : (updNode fam t v n).err = none) :
    Eqv (updNode fam t v n).val v :=
  (updNode_post fam v t n hv ht hnn herr).1

/-- the merge of `True` over an in-memory `1` really replaces the leaf (the defect that was fixed) -/
example :
    let fam : Fam := ⟨[.requireStringKey, .jsonFormat], [.requireStringKey, .jsonFormat]⟩
    Tr.same (updNode fam (.dict 0 [(.s "x", .leaf (.int 1))]) (.dict () [(.s "x", .leaf (.bool true))] : J) 1).val
      (.dict () [(.s "x", .leaf (.bool true))] : J) = true := by
  decide +kernel

/-- non-vacuity: a nested value with colliding scalars meets the hypotheses -/
example : clean false (Tr.dict () [(.s "a", .list () [.leaf (.int 1), .leaf (.bool true),
    .leaf (.flt 1 1), .leaf .null, .dict () []])] : J) = true := by decide +kernel

end SC.Props
