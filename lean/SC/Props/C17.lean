/-
C17 — reading never writes.
-/
import SC.Lemmas.Seq
import SC.Lemmas.BufRead
import SC.FS
namespace SC.Props
open SC

/-- C17 (unbuffered): for every state, every handle and every read operation — item access,
`get`, `len`, iteration, membership, `==`/`!=`, ordering comparisons, `repr`, `()`,
`keys`/`values`/`items`, `reversed`, `index`, `count` — the backend contents after the call
(returned or raised) are exactly the contents before it.  In particular a missing resource
stays missing: `stores` is the same association list. -/
theorem C17_read_pure (s : State) (h : Handle) (op : Op) (hr : op.isRead = true) :
    (call s h op).1.stores = s.stores :=
  call_read_stores s h op hr

/-- corollary: any sequence of reads through any handles leaves every backend untouched -/
theorem C17_reads_pure (s : State) (prog : List (Handle × Op)) (hr : ∀ p ∈ prog, p.2.isRead = true) :
    (prog.foldl (fun st p => (call st p.1 p.2).1) s).stores = s.stores :=
  List.foldlRecOn prog _ (motive := fun st => st.stores = s.stores) rfl
    fun st hst p hp => (call_read_stores st p.1 p.2 (hr p hp)).trans hst

/-- C17 at the level of file operations (L4): any number of loads, of any files, in any order,
leaves the disk — committed contents and pending bytes of EVERY path — exactly as it was, and a
crash at any instant during them can only show what a crash before them could show.  In
particular a missing file stays missing and other writers' temporary files stay untouched. -/
theorem C17_loads_leave_the_disk (d : FS.Disk) (targets : List FS.Path) :
    FS.run d (targets.flatMap FS.loadProgram) = d ∧
    ∀ p, FS.crashContents d (targets.flatMap FS.loadProgram) p = FS.observe d p := by
  have h : targets.flatMap FS.loadProgram = [] := by
    induction targets with
    | nil => rfl
    | cons t ts ih => simp [List.flatMap_cons, FS.loadProgram, ih]
  rw [h]
  exact ⟨rfl, fun _ => rfl⟩

/-- C17 (buffered): a file whose buffered copy was only read is never written by any flush —
at the exit of any context or forced by the capacity — and the flush never raises, whatever
the file looks like on disk; serialized strategy (contents still equal to what was read). -/
theorem C17_buffered_readonly_not_written_serialized (s : B.State) (oi : Nat) (o : B.Obj) (force : Bool)
    (e : B.Entry) (he : s.entry o.res = some e) (hm : Tr.same e.contents e.hash = true) :
    (B.flushSer s oi o force).2 = none ∧
    (B.flushSer s oi o force).1.stores = s.stores ∧ (B.flushSer s oi o force).1.metas = s.metas :=
  B.flushSer_readonly s oi o force e he hm

/-- shared-memory strategy (modified flag unset — only a save sets it, and reads never save). -/
theorem C17_buffered_readonly_not_written_memory (s : B.State) (oi : Nat) (o : B.Obj) (force : Bool)
    (e : B.Entry) (hb : (!(s.isBuffered o) || force) = true) (he : s.entry o.res = some e)
    (hm : e.modified = false) :
    (B.flushMem s oi o force).2 = none ∧
    (B.flushMem s oi o force).1.stores = s.stores ∧ (B.flushMem s oi o force).1.metas = s.metas :=
  B.flushMem_readonly s oi o force e he hm

/-- C17 (buffered), histories: starting from any state of a buffered class in which every
buffered copy is clean (in particular: nothing buffered yet), ANY history made of reads through
any handles, enters and exits of `obj.buffered` and `buffer_backend(cap)` in any nesting,
capacity changes and new objects — including every flush those exits and capacities trigger —
leaves the content, the metadata (size, mtime stamp) of every file and the stamp counter exactly
as they were: nothing is written, nothing is created, and all buffered copies are still clean.
Both strategies. -/
theorem C17_readonly_history_never_writes (s : B.State) (history : List B.Step)
    (hro : ∀ st ∈ history, st.readOnly = true) (hclean : B.AllClean s) :
    (B.run s history).stores = s.stores ∧ (B.run s history).metas = s.metas ∧
    (B.run s history).stamp = s.stamp ∧ B.AllClean (B.run s history) := by
  obtain ⟨hc, hd⟩ := (B.ro_run history s hro).2 hclean
  exact ⟨hd.1, hd.2.1, hd.2.2, hc⟩

/-- the initial state of a buffered class is clean -/
theorem C17_init_clean (fam : Fam) (strategy : Buffering) (fl : List ((Int × Nat) × Nat)) :
    B.AllClean (B.State.init fam strategy fl) := by
  intro p hp; simp [B.State.init] at hp

end SC.Props
