/-
C07 — a buffered flush never silently overwrites a file changed by someone else.
-/
import SC.Lemmas.BufCap
import SC.Lemmas.BufRead
import SC.Lemmas.BufVisible
namespace SC.Props
open SC SC.B

/-- C07 (a), serialized strategy: whenever a collection is flushed (at context exit, or forced
by the capacity) while its buffered copy differs from what was read and the file's metadata
differs from the metadata recorded when the file entered the buffer, the flush raises
`MetadataError` and neither the content nor the metadata of ANY file changes. -/
theorem C07_conflict_raises_and_preserves_serialized (s : B.State) (oi : Nat) (o : B.Obj) (force : Bool)
    (e : B.Entry) (hb : (!(s.isBuffered o) || force) = true) (he : s.entry o.res = some e)
    (hm : Tr.same e.contents e.hash = false) (hc : e.fmeta ≠ s.stat o.res) :
    (flushSer s oi o force).2 = some (.other "MetadataError") ∧
    (flushSer s oi o force).1.stores = s.stores ∧ (flushSer s oi o force).1.metas = s.metas :=
  let h := flushSer_conflict s oi o force e hb he hm hc
  ⟨h.1, h.2.1, h.2.2.1⟩

/-- C07 (a), shared-memory strategy. -/
theorem C07_conflict_raises_and_preserves_memory (s : B.State) (oi : Nat) (o : B.Obj) (force : Bool)
    (e : B.Entry) (hb : (!(s.isBuffered o) || force) = true) (he : s.entry o.res = some e)
    (hm : e.modified = true) (hc : e.fmeta ≠ s.stat o.res) :
    (flushMem s oi o force).2 = some (.other "MetadataError") ∧
    (flushMem s oi o force).1.stores = s.stores ∧ (flushMem s oi o force).1.metas = s.metas := by
  have hw : writeMem s oi o e = (s, some (.other "MetadataError")) := by simp [writeMem, hm, hc]
  rw [flushMem_of_entry oi hb he, hw]
  exact ⟨rfl, finMem_disk ..⟩

/-- C07 (b): a file whose buffered copy was only read never raises and is never written,
whatever happened to it on disk (both strategies). -/
theorem C07_readonly_silent_serialized (s : B.State) (oi : Nat) (o : B.Obj) (force : Bool) (e : B.Entry)
    (he : s.entry o.res = some e) (hm : Tr.same e.contents e.hash = true) :
    (flushSer s oi o force).2 = none ∧
    (flushSer s oi o force).1.stores = s.stores ∧ (flushSer s oi o force).1.metas = s.metas :=
  flushSer_readonly s oi o force e he hm
theorem C07_readonly_silent_memory (s : B.State) (oi : Nat) (o : B.Obj) (force : Bool) (e : B.Entry)
    (hb : (!(s.isBuffered o) || force) = true) (he : s.entry o.res = some e) (hm : e.modified = false) :
    (flushMem s oi o force).2 = none ∧
    (flushMem s oi o force).1.stores = s.stores ∧ (flushMem s oi o force).1.metas = s.metas :=
  flushMem_readonly s oi o force e he hm

/-- C07 (c), what the conflict check compares against: a capacity-forced flush of the shared-memory
strategy keeps the entry in the buffer, and it changes the entry's recorded metadata ONLY if it has
just written the file with the buffered data — then to the metadata of exactly that write.  So the
recorded metadata always describes a file state the buffered data is based on, and a later outside
change is still detected.  (The defect repaired in e2e2336 refreshed it for entries the flush had
not written, adopting an outside writer's file state.) -/
theorem C07_forced_flush_refreshes_only_what_it_wrote (s : B.State) (oi : Nat) (o : B.Obj) (e : B.Entry)
    (he : s.entry o.res = some e) :
    ∃ e', (flushMem s oi o true).1.entry o.res = some e' ∧ e'.modified = false ∧
      (e'.fmeta = e.fmeta ∨
       ((flushMem s oi o true).2 = none ∧
        (flushMem s oi o true).1.store o.res = some (s.cellData e.cell).toBase ∧
        e'.fmeta = (flushMem s oi o true).1.stat o.res)) := by
  rw [flushMem_of_entry oi (by simp) he]
  refine ⟨_, entry_setEntry _ _ _, rfl, ?_⟩
  -- the metadata is refreshed only where the write happened
  by_cases hm : e.modified = true
  · by_cases hc : e.fmeta = s.stat o.res
    · cases hw : s.failing.contains o.res
      · rw [writeMem_saves hm hc hw]
        exact Or.inr ⟨rfl, store_of_save (s := s.setObj oi { o with cell := e.cell }) (o := { o with cell := e.cell }) rfl,
          by simp only [hm, Bool.and_self, Option.isNone_none, if_true]; rfl⟩
      · have : writeMem s oi o e = (s.setObj oi { o with cell := e.cell }, some (.other "OSError")) := by
          simp only [writeMem, hm, hc, if_true, ne_eq, not_true_eq_false, if_false]
          exact trySave_fails _ _ hw
        exact Or.inl (by simp [this])
    · exact Or.inl (by simp [writeMem, hm, hc])
  · exact Or.inl (by simp [hm])

/-- ... and a serialized buffered save never touches the metadata recorded when the file entered
the buffer (it is taken at the first buffered access, not at the first save) -/
theorem C07_save_keeps_recorded_metadata (s0 : B.State) (o : B.Obj) (e : B.Entry) (he : s0.entry o.res = some e) :
    ∃ e', (saveSer s0 o).entry o.res = some e' ∧ e'.fmeta = e.fmeta := by
  obtain ⟨e', _, hm, heq⟩ := saveSer_eq s0 o
  exact ⟨e', heq ▸ entry_setBuf .., hm e he⟩

/-- C07 (d), settings: leaving a backend-wide context restores the capacity saved at entry and
pops the stack in every state — in particular when the exit raises `BufferedError`. -/
theorem C07_settings_restored (s : B.State) (saved : Option Nat) (rest : List (Option Nat))
    (hst : s.capStack = saved :: rest) :
    (exitCls s).1.capStack = rest ∧
    (exitCls s).1.capacity = (match saved with | some c => c | none => s.capacity) ∧
    (exitCls s).1.ctx = s.ctx - 1 :=
  exitCls_restores s saved rest hst

/-- non-vacuity + the whole scenario on the machine: file 0 modified in a backend-wide context,
rewritten from outside, exit raises BufferedError naming file 0, the outside content stays,
the buffer is empty and the capacity is what it was. -/
example :
    let fam : Fam := ⟨[.requireStringKey, .jsonFormat], [.requireStringKey, .jsonFormat]⟩
    let s0 := run (B.State.init fam .sharedMemory [])
      [.openObj true 0 none, .enterCls (some 500), .call (.root 0) (.dSetitem (.s "a") (.leaf (.int 1))),
       .ext 0 (.dict () [(.s "x", .leaf (.int 9))])]
    let r := exitCls s0
    r.2.isSome = true ∧ r.1.entries.length = 0 ∧ r.1.size = 0 ∧
    r.1.capacity = defaultCapacity .sharedMemory ∧
    (match r.1.store 0 with | some d => Tr.same d (.dict () [(.s "x", .leaf (.int 9))] : J) | none => false) = true := by
  decide +kernel

end SC.Props
