/-
C15 — buffer size accounting is exact and the capacity of a backend-wide context is restored.
-/
import SC.Lemmas.BufBound
import SC.Lemmas.BufVisible
namespace SC.Props
open SC SC.B

/-- C15, exactness: in every state reachable from the initial state of a buffered class by ANY
history — operations through root and child handles, `obj.buffered` and `buffer_backend(cap)`
enters and exits in any nesting, `set_buffer_capacity`, new objects, outside writes and
deletions, forced flushes, flushes that raise — the reported size equals the sum over the files
currently in the buffer of: the encoded length of the buffered contents (serialized strategy) /
1 if the buffered copy has unflushed modifications, else 0 (shared-memory strategy); and no
file is in the buffer twice. -/
theorem C15_size_exact (fam : Fam) (strategy : Buffering) (fl : List ((Int × Nat) × Nat))
    (history : List Step) :
    SizeOK (run (B.State.init fam strategy fl) history) :=
  (keeps_run _ history).sizeOK (sizeOK_init fam strategy fl)

/-- the same as a one-step invariant (for every state, not only reachable ones) -/
theorem C15_size_step (s : B.State) (st : Step) (h : SizeOK s) : SizeOK (step s st) :=
  (keeps_step s st).sizeOK h

/-- C15, bound and zero: in every state reachable from the initial state of a buffered class
(either strategy) by ANY history, once the operation has returned
* the reported size does not exceed the capacity in force, and
* if no buffered context is active — the backend-wide counter is 0 and no object is inside its
  `buffered` context — the buffer holds no file and the size is 0.
Both follow from the invariant `Good` (`SC/Lemmas/BufBound.lean`): exact accounting, plus "every
buffered file has a registered object that is currently buffered", plus the bound; a forced flush
leaves size 0 (`forced_flush_zero`) because it flushes every registered object. -/
theorem C15_bounded_and_zero_outside (fam : Fam) (strategy : Buffering) (fl : List ((Int × Nat) × Nat))
    (hst : strategy ≠ .none) (history : List Step) :
    let s := run (B.State.init fam strategy fl) history
    s.size ≤ s.capacity ∧
    (s.ctx = 0 → (∀ o ∈ s.objs, o.buffered = 0) → s.entries = [] ∧ s.size = 0) := by
  have h := good_run _ history (good_init fam strategy fl hst)
  exact ⟨h.bound, fun hc ho => zero_outside _ h hc ho⟩

/-- the same as a one-step invariant, for every good state (not only reachable ones) -/
theorem C15_good_step (s : B.State) (st : Step) (h : Good s) : Good (step s st) := good_step s st h

/-- C15: a capacity-forced flush empties the accounting: whatever the capacity, the size after
`_flush_buffer(force=True)` is 0 -/
theorem C15_forced_flush_zero (s : B.State) (h : Good s) : (flushBuffer s true).1.size = 0 :=
  forced_flush_zero s h.1 h.held.weak ((keeps_flushBuffer s true).sizeOK h.sizeOK)

/-- C15, capacity: `buffer_backend(cap)` pushes the capacity in force ... -/
theorem C15_enter_pushes (s : B.State) (cap : Option Nat) :
    (enterCls s cap).1.capStack = (cap.map (fun _ => s.capacity)) :: s.capStack :=
  (enterCls_pushes s cap).1

/-- ... and leaving the context puts it back, whether or not the flush on exit (or the flush the
restored, smaller capacity may force) raises. -/
theorem C15_capacity_restored (s : B.State) (saved : Option Nat) (rest : List (Option Nat))
    (hst : s.capStack = saved :: rest) :
    (exitCls s).1.capStack = rest ∧
    (exitCls s).1.capacity = (match saved with | some c => c | none => s.capacity) :=
  ⟨(exitCls_restores s saved rest hst).1, (exitCls_restores s saved rest hst).2.1⟩

/-- `set_buffer_capacity(n)` leaves capacity `n` also when the flush it forces raises -/
theorem C15_set_capacity (s : B.State) (n : Nat) : (setCapacity s n).1.capacity = n :=
  (setCapacity_capacity s n).1

/-- non-vacuity: a history with a forced flush (capacity 0) on the shared-memory machine -/
example :
    let fam : Fam := ⟨[.requireStringKey, .jsonFormat], [.requireStringKey, .jsonFormat]⟩
    let s := run (B.State.init fam .sharedMemory [])
      [.openObj true 0 none, .enterCls (some 0), .call (.root 0) (.dSetitem (.s "a") (.leaf (.int 1))),
       .call (.root 0) (.dSetitem (.s "b") (.leaf (.int 2)))]
    s.size = 0 ∧ s.entries.length = 1 ∧ (s.store 0).isSome = true := by
  decide +kernel

/-- C15 under I/O failures: the histories above include the step `setFailing rs` ("from now on
writing these files raises OSError"), so exactness, the bound and zero-outside hold through flushes
that fail half-way.  One such flush, spelled out: the write of a modified, non-conflicting buffered
file fails — the error is `OSError`, no file changes, and the file has left the buffer (so it is
no longer counted). -/
theorem C15_failed_write_leaves_buffer (s : B.State) (oi : Nat) (o : B.Obj) (force : Bool) (e : B.Entry)
    (hb : (!(s.isBuffered o) || force) = true) (he : s.entry o.res = some e)
    (hm : Tr.same e.contents e.hash = false) (hc : e.fmeta = s.stat o.res)
    (hmerge : (mergeInto s oi o e.contents).2 = none) (hw : s.failing.contains o.res = true) :
    (flushSer s oi o force).2 = some (.other "OSError") ∧
    (flushSer s oi o force).1.stores = s.stores ∧ (flushSer s oi o force).1.metas = s.metas ∧
    (flushSer s oi o force).1.entry o.res = none := by
  have hcore := core_eq (mergeInto_core s oi o e.contents)
  rw [flushSer_of_entry oi hb he, writeSer_saves hm hc hmerge, trySave_fails _ _ (by rw [mergeInto_failing]; exact hw)]
  exact ⟨rfl, (finSer_disk ..).1.trans hcore.1, (finSer_disk ..).2.trans hcore.2.1, finSer_entry ..⟩

/-- non-vacuity with a failing disk: two files buffered, the write of file 1 fails at the exit;
afterwards the size is 0, the buffer empty, file 0 written, file 1 still missing -/
example :
    let fam : Fam := ⟨[.requireStringKey, .jsonFormat], [.requireStringKey, .jsonFormat]⟩
    let s := run (B.State.init fam .sharedMemory [])
      [.openObj true 0 none, .openObj false 1 none, .enterCls none,
       .call (.root 0) (.dSetitem (.s "a") (.leaf (.int 1))), .call (.root 1) (.lAppend (.leaf (.int 2))),
       .setFailing [1], .exitCls]
    s.ctx = 0 ∧ s.entries.length = 0 ∧ s.size = 0 ∧ (s.store 0).isSome = true ∧ (s.store 1).isNone = true := by
  decide +kernel

/-- non-vacuity of the zero-outside clause: a history that buffers two files inside nested contexts
(one file over the capacity of the inner context) ends outside every context with an empty
buffer, size 0 and both files written -/
example :
    let fam : Fam := ⟨[.requireStringKey, .jsonFormat], [.requireStringKey, .jsonFormat]⟩
    let s := run (B.State.init fam .sharedMemory [])
      [.openObj true 0 none, .openObj false 1 none, .enterCls none, .enterObj 1,
       .call (.root 0) (.dSetitem (.s "a") (.leaf (.int 1))), .enterCls (some 0),
       .call (.root 1) (.lAppend (.leaf (.int 2))), .exitCls, .exitObj 1, .exitCls]
    s.ctx = 0 ∧ s.entries.length = 0 ∧ s.size = 0 ∧ (s.store 0).isSome = true ∧ (s.store 1).isSome = true := by
  decide +kernel

end SC.Props
