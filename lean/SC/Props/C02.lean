/-
C02 — read-through: every read reflects the backend's current content.
-/
import SC.Props.C04
namespace SC.Props
open SC

/-- every read entry of the API loads first (`self._load()` in its body), in every class
of the current source — or is inherited from an ABC mix-in, which is built from such reads -/
def ReadLoads (a : ApiEntry) : Bool :=
  a.mutates || !a.definedInRepo ||
    match a.summary with
    | none => false
    | some ms => ms.explicitLoad || a.name == "__eq__" || a.name == "__lt__" || a.name == "__le__"
        || a.name == "__gt__" || a.name == "__ge__"     -- these go through `self()`

theorem C02_reads_table :
    ∀ f ∈ Generated.families, ∀ c ∈ f.classes, ∀ a ∈ c.api, ReadLoads a = true := by decide +kernel

/-- C02, model side: every read (on the root or on a child handle) is answered from the tree
obtained by merging the backend's current content into memory -/
theorem C02_reads_load_first (s : State) (oi : Nat) (b : Bool) (op : Op) (hr : op.isRead = true)
    (hs : op.skipsLoad = false) : loadFor s oi b op = loadRoot s oi := by
  simp [loadFor, hs, isOverwrite_read op hr]

/-- C02, the merge post-condition: whenever `_update(data)` returns normally — for EVERY tree in
memory (any stale content, any depth) and EVERY data with unique keys other than a bare null —
the merged tree has exactly the content of the data: same structure, identical scalars
(constructor and payload) at every leaf, the same key sets in every dict; positions whose value
changed to null, to a scalar or to the other container kind included.  (Mutual induction over
the data following the dict loop and the list loop of `_update`.) -/
theorem C02_merge_post (fam : Fam) {ι : Type} (d : Tr ι) (t : T) (n : Nat) (hd : d.wf = true) (ht : t.wf = true)
    (hnn : d ≠ .leaf .null) (herr : (updNode fam t d n).err = none) :
    Eqv (updNode fam t d n).val d ∧ (updNode fam t d n).val.wf = true :=
  updNode_post fam d t n hd ht hnn herr

/-- C02 at the level of objects: after a load that does not raise, the object's tree has
exactly the content the backend holds at that moment — whatever was cached before. -/
theorem C02_load_reflects_backend (s : State) (oi : Nat) (o : Obj) (d : J)
    (ho : s.objs[oi]? = some o) (hst : s.store o.res = some d)
    (hd : d.wf = true) (ht : o.root.wf = true) (hnn : d ≠ .leaf .null)
    (herr : (updNode (s.fam o) o.root d s.next).err = none) :
    ∃ o', (loadRoot s oi).1.objs[oi]? = some o' ∧ Eqv o'.root d :=
  ⟨_, loadRoot_obj ho hst, (updNode_post (s.fam o) d o.root s.next hd ht hnn herr).1⟩

/-- C02, second sentence: A CHILD HANDLE STAYS ATTACHED.  Memory `t` (any stale content), backend
data `d` that passes the family's validators, both without duplicate keys; a path — any length —
along which memory and data hold containers of the same kind (`kindsMatch`).  Then `t._update(d)`
returns normally, the node that was at the path is still at the path WITH THE SAME IDENTITY (the
handle the user holds is the object in the tree), and its content is exactly the data at that
path ("its reads show fresh data"; "its writes persist" is then C01 applied to the handle). -/
theorem C02_handle_stays_attached (fam : Fam) {ι : Type} (p : List Seg) (t : T) (d : Tr ι) (n : Nat)
    (hv : Valid fam d) (hd : d.wf = true) (ht : t.wf = true) (hnn : d ≠ .leaf .null)
    (hk : kindsMatch p t d = true) :
    (updNode fam t d n).err = none ∧
    ∃ c c' dc, Tr.sub p t = some c ∧ Tr.sub p (updNode fam t d n).val = some c' ∧
      c'.id? = c.id? ∧ c.id?.isSome = true ∧ Tr.sub p d = some dc ∧ Eqv c' dc := by
  obtain ⟨herr, c, c', h1, h2, h3, h4⟩ := attach fam p t d n hv hd ht hk
  obtain ⟨dc, hdc, he⟩ := eqv_sub p _ d c' (updNode_post fam d t n hd ht hnn herr).1 h2
  exact ⟨herr, c, c', dc, h1, h2, h3, h4, hdc, he⟩

/-- ... and at the level of objects: the load of root object `oi` keeps every such handle -/
theorem C02_load_keeps_handles (s : State) (oi : Nat) (o : Obj) (d : J) (p : List Seg)
    (ho : s.objs[oi]? = some o) (hst : s.store o.res = some d)
    (hv : Valid (s.fam o) d) (hd : d.wf = true) (ht : o.root.wf = true)
    (hk : kindsMatch p o.root d = true) :
    (loadRoot s oi).2 = none ∧
    ∃ o' c c', (loadRoot s oi).1.objs[oi]? = some o' ∧ Tr.sub p o.root = some c ∧
      Tr.sub p o'.root = some c' ∧ c'.id? = c.id? ∧ c.id?.isSome = true := by
  obtain ⟨herr, c, c', h1, h2, h3, h4⟩ := attach (s.fam o) p o.root d s.next hv hd ht hk
  exact ⟨by rw [loadRoot_err ho hst, herr], _, c, c', loadRoot_obj ho hst, h1, h2, h3, h4⟩

/-- C02, first sentence, at the level of a public read: whatever the backend currently holds under
key `k` (written by anyone), `obj[k]` through ANY object bound to the resource — whatever that
object had cached — returns exactly that value (same structure, identical scalars, same key sets),
and `k in obj` is true; a key the backend does not have raises `KeyError`. -/
theorem C02_getitem_returns_backend_value (s : State) (oi : Nat) (o : Obj) (i : Nat) (kvs0 : List (Key × T))
    (dkvs : List (Key × J)) (k : Key)
    (ho : s.objs[oi]? = some o) (hroot : o.root = .dict i kvs0) (hst : s.store o.res = some (.dict () dkvs))
    (hv : Valid (s.fam o) (Tr.dict () dkvs : J)) (hwd : Tr.wfKV dkvs = true) (hwt : o.root.wf = true) :
    (∀ v, Tr.lookup k dkvs = some v →
      ∃ x : T, (call s (.root oi) (.dRead (.getitem k))).2 = .ok (.node x) ∧ Eqv x v) ∧
    (Tr.lookup k dkvs = none → (call s (.root oi) (.dRead (.getitem k))).2 = .error .keyError) := by
  obtain ⟨heqv, _, hres, _, _⟩ := call_root_refines s oi o (.dict () dkvs) (.dRead (.getitem k)) ho hst hv hwd hwt
    (by rw [hroot]; rfl) rfl rfl rfl
  obtain ⟨j, tkvs, ht, hsome, hnone⟩ := eqv_dict heqv
  rw [ht, runBody_dRead] at hres
  dsimp only [dictRead] at hres
  refine ⟨fun v hv' => ?_, fun hn => ?_⟩
  · obtain ⟨x, hx, hxv⟩ := hsome k v hv'
    exact ⟨x, by rw [hres, hx], hxv⟩
  · rw [hres, hnone k hn]

/-- C02, why a handle keeps MEANING the same position: the merge keeps the Python objects that stay
and creates new ones for new containers, so identities that are pairwise distinct and below the
counter before a merge are so after it, and each identity of the result is one the tree had or a
newly drawn one — for every tree, every data, also when the merge raises. -/
theorem C02_merge_keeps_identities_distinct (fam : Fam) {ι : Type} (d : Tr ι) (t : T) (n : Nat)
    (hn : (Tr.ids t).Nodup) (hb : ∀ i ∈ Tr.ids t, i < n) :
    n ≤ (updNode fam t d n).next ∧ (Tr.ids (updNode fam t d n).val).Nodup ∧
    (∀ i ∈ Tr.ids (updNode fam t d n).val, i < (updNode fam t d n).next) ∧
    (∀ i ∈ Tr.ids (updNode fam t d n).val, i ∈ Tr.ids t ∨ (n ≤ i ∧ i < (updNode fam t d n).next)) := by
  have h := updNode_ids fam d t n hn hb
  exact ⟨h.1, h.2.1, h.bound hb, h.2.2⟩

/-- ... so with distinct identities the object the user holds IS the node at the path: looking the
handle up by identity gives the node at the path, and storing through it replaces at the path. -/
theorem C02_identity_is_position (p : List Seg) (t c new : T) (h : Nat) (hn : (Tr.ids t).Nodup)
    (hs : Tr.sub p t = some c) (hi : c.id? = some h) :
    Tr.find h t = some c ∧ Tr.replace h new t = Tr.setSub p t new :=
  ⟨find_of_sub p t c h hn hs hi, replace_of_sub new p t c h hn hs hi⟩

/-- C02 for a read through a NESTED CHILD HANDLE at any depth: it returns what the read's body
returns on a node whose content is exactly the backend's current data at the handle's path, and
changes no backend. -/
theorem C02_child_read_runs_on_backend_content (s : State) (oi id : Nat) (o : Obj) (d : J) (p : List Seg)
    (c : T) (op : Op)
    (ho : s.objs[oi]? = some o) (hst : s.store o.res = some d) (hown : s.ownerOf id = some oi)
    (hsub : Tr.sub p o.root = some c) (hid : c.id? = some id)
    (hnd : (Tr.ids o.root).Nodup) (hlt : ∀ i ∈ Tr.ids o.root, i < s.next)
    (hother : ∀ j o', j < oi → s.objs[j]? = some o' → id ∉ Tr.ids o'.root)
    (hv : Valid (s.fam o) d) (hwd : d.wf = true) (hwt : o.root.wf = true)
    (hk : kindsMatch p o.root d = true) (hns : op.skipsLoad = false) (hr : op.isRead = true) :
    ∃ c' dc, Tr.sub p d = some dc ∧ Eqv c' dc ∧ c'.id? = some id ∧
      (call s (.node id) op).2 =
        (match (runBody (s.fam o) c' op (loadRoot s oi).1.next).err with
         | some e => .error e
         | none => .ok (runBody (s.fam o) c' op (loadRoot s oi).1.next).out) ∧
      (call s (.node id) op).1.stores = s.stores := by
  -- used of the refinement step: the identity, the data at the path, its content, the output, the read clause
  obtain ⟨c', dc, -, hid', hdc, heqv, -, hout, -, hread⟩ :=
    call_child_refines s oi id o d p c op ho hst hown hsub hid hnd hlt hother hv hwd hwt hk hns
      (preValidate_read _ _ op hr)
  exact ⟨c', dc, hdc, heqv, hid', hout, hread hr⟩

/-- C02, first sentence, IN ANY REACHABLE STATE: after any history of public calls, constructor
calls and outside writers (outside data without duplicate keys, as Python values are), whatever
the backend currently holds under key `k` — valid data — `obj[k]` through ANY object bound to the
resource returns exactly that value, whatever the object had cached; a key the backend does not
have raises `KeyError`.  No hypothesis about the object's memory is left. -/
theorem C02_getitem_in_any_history (fams : List Fam) (history : List SStep)
    (ha : ∀ st ∈ history, SStep.argsWf st = true) (oi : Nat) (o : Obj) (i : Nat) (kvs0 : List (Key × T))
    (dkvs : List (Key × J)) (k : Key) :
    let s := srun (State.empty fams) history
    s.objs[oi]? = some o → o.root = .dict i kvs0 → s.store o.res = some (.dict () dkvs) →
    Valid (s.fam o) (Tr.dict () dkvs : J) →
    (∀ v, Tr.lookup k dkvs = some v →
      ∃ x : T, (call s (.root oi) (.dRead (.getitem k))).2 = .ok (.node x) ∧ Eqv x v) ∧
    (Tr.lookup k dkvs = none → (call s (.root oi) (.dRead (.getitem k))).2 = .error .keyError) := by
  intro s ho hroot hst hv
  have hw := C04_keys_unique_in_every_history fams history ha
  exact C02_getitem_returns_backend_value s oi o i kvs0 dkvs k ho hroot hst hv (store_wf hw hst)
    (hw.objs o (List.mem_of_getElem? ho))

/-- C02 for a read through a NESTED CHILD HANDLE, IN ANY REACHABLE STATE (identity, ownership and
key-uniqueness hypotheses discharged by the history invariants). -/
theorem C02_child_read_in_any_history (fams : List Fam) (history : List SStep)
    (ha : ∀ st ∈ history, SStep.argsWf st = true)
    (oi id : Nat) (o : Obj) (d : J) (p : List Seg) (c : T) (op : Op) :
    let s := srun (State.empty fams) history
    s.objs[oi]? = some o → s.store o.res = some d → Tr.sub p o.root = some c → c.id? = some id →
    Valid (s.fam o) d → kindsMatch p o.root d = true → op.skipsLoad = false → op.isRead = true →
    ∃ c' dc, Tr.sub p d = some dc ∧ Eqv c' dc ∧ c'.id? = some id ∧
      (call s (.node id) op).2 =
        (match (runBody (s.fam o) c' op (loadRoot s oi).1.next).err with
         | some e => .error e
         | none => .ok (runBody (s.fam o) c' op (loadRoot s oi).1.next).out) ∧
      (call s (.node id) op).1.stores = s.stores := by
  intro s ho hst hsub hid hv hk hns hr
  -- as in `C02_child_read_runs_on_backend_content`
  obtain ⟨c', dc, -, hid', hdc, heqv, -, hout, -, hread⟩ :=
    C04_child_call_in_any_history fams history ha oi id o d p c op
      ho hst hsub hid hv hk hns (preValidate_read _ _ op hr)
  exact ⟨c', dc, hdc, heqv, hid', hout, hread hr⟩

/-- C02, THE CONVERSE OF ATTACHMENT ("a handle whose position was reassigned, removed or changed kind
is detached"), in any reachable state: the user still holds a nested collection whose identity is
in no object's tree any more (it lives on among the detached nodes and stays usable).  A mutation
through it loads and saves its root like any other call, and that is ALL the backend sees: the
resource ends up holding the merged content of the root — exactly what a bare load-and-save would
leave.  Nothing of the operation reaches the backend; no other position is disturbed. -/
theorem C02_detached_handle_write_does_not_reach_backend (fams : List Fam) (history : List SStep)
    (oi id : Nat) (o : Obj) (d : J) (t0 : T) (op : Op) :
    let s := srun (State.empty fams) history
    s.objs[oi]? = some o → s.store o.res = some d → s.ownerOf id = some oi →
    id ∉ flatIds s.objs → s.detached.findSome? (fun p => Tr.find id p.2) = some t0 →
    (updNode (s.fam o) o.root d s.next).err = none →
    op.skipsLoad = false → op.isRead = false → preValidate (s.fam o) t0.isDict op = none →
    (call s (.node id) op).1.store o.res = some (updNode (s.fam o) o.root d s.next).val.toBase := by
  intro s ho hst hown hnot hdet herr hns hm hpre
  obtain ⟨hok, hwn⟩ := srun_ownOK history _ (empty_idOK fams) (empty_ownOK fams)
  exact call_detached_refines s oi id o d t0 op ho hst hown hok hnot (lt_next_of_owner hwn hown) hdet herr hns hm hpre

/-- C02, A REJECTED LOAD CHANGES NOTHING.  When the backend holds a document the root cannot merge —
a list where the root is a dict, a dict where it is a list, a bare scalar — `_update` raises
`ValueError` and leaves the tree, the identity counter and the set of detached nodes exactly as they
were: no partial merge, nothing to undo.  So the object is as usable as before, and since the
history theorems (`C02_getitem_in_any_history`, `C02_child_read_in_any_history`) quantify over
histories in which calls raise, the first read after a mergeable document is back returns the
backend's content.  (The code keeps one more piece of state across a load, the counter that suspends
synchronisation; that it is restored when the merge raises is what the correspondence programs with
unmergeable root documents check.) -/
theorem C02_rejected_load_changes_nothing (fam : Fam) {ι : Type} (t : T) (d : Tr ι) (n : Nat)
    (hk : sameKind t d = false) (hnn : d ≠ .leaf .null) :
    (updNode fam t d n).val = t ∧ (updNode fam t d n).next = n ∧ (updNode fam t d n).det = [] ∧
    (updNode fam t d n).err = some .valueError := by
  suffices h : updNode fam t d n = ⟨t, n, [], some .valueError⟩ from h ▸ ⟨rfl, rfl, rfl, rfl⟩
  cases d with
  | leaf s => rw [updNode_leaf, if_neg fun h : s = .null => hnn (h ▸ rfl)]
  | list j ys =>
    cases t with
    | list i xs => cases hk
    | _ => rfl
  | dict j kws =>
    cases t with
    | dict i kvs => cases hk
    | _ => rfl

/-- non-vacuity: a dict root against a list document -/
example :
    let fam : Fam := ⟨[.requireStringKey, .jsonFormat], [.requireStringKey, .jsonFormat]⟩
    let t : T := .dict 0 [(.s "a", .dict 1 [])]
    let d : J := .list () [.leaf (.int 1)]
    sameKind t d = false ∧ (updNode fam t d 2).err = some .valueError := by
  decide +kernel

/-- C02, WHEN A POSITION GOES, THE HANDLE IS NOT THERE ANY MORE.  After a merge that returns normally —
any stale memory `t`, any data `d`, any path `p` of any length — what sits at `p` in memory is what
the data has at `p`: if the data has nothing there (key removed, list shortened, a container above
became a scalar), memory has nothing there; if the data has something there, memory has a node of
exactly that kind (leaf / list / dict).  So a nested collection the user obtained at `p` earlier is
not the node at `p` once the backend holds something of another kind there (with
`C02_handle_stays_attached`: it is the node at `p` exactly as long as the kinds along `p` agree).
That the old node then occurs NOWHERE in the tree (the merge never moves nodes) is checked by the
Shadow's attachment rule and the twin, not proved here. -/
theorem C02_changed_position_no_longer_holds_the_handle (fam : Fam) {ι : Type} (p : List Seg) (t : T)
    (d : Tr ι) (n : Nat) (hd : d.wf = true) (ht : t.wf = true) (hnn : d ≠ .leaf .null)
    (herr : (updNode fam t d n).err = none) :
    (Tr.sub p d = none → Tr.sub p (updNode fam t d n).val = none) ∧
    (∀ dc c', Tr.sub p d = some dc → Tr.sub p (updNode fam t d n).val = some c' →
      c'.isDict = dc.isDict ∧ c'.isList = dc.isList ∧ Eqv c' dc) := by
  have he := (updNode_post fam d t n hd ht hnn herr).1
  constructor
  · intro hnone
    cases hs : Tr.sub p (updNode fam t d n).val with
    | none => rfl
    | some c' =>
      obtain ⟨dc, hdc, _⟩ := eqv_sub p _ d c' he hs
      rw [hnone] at hdc; cases hdc
  · intro dc c' hdc hs
    obtain ⟨dc', hdc', hcc⟩ := eqv_sub p _ d c' he hs
    rw [hdc] at hdc'; cases hdc'
    exact ⟨hcc.kinds.1, hcc.kinds.2, hcc⟩

/-- non-vacuity: the three ways a position goes — key removed, position turned into a scalar, dict
turned into a list — and in each the node at the path afterwards is not a dict any more -/
example :
    let fam : Fam := ⟨[.requireStringKey, .jsonFormat], [.requireStringKey, .jsonFormat]⟩
    let t : T := .dict 0 [(.s "a", .dict 1 [(.s "k", .leaf (.int 1))]), (.s "b", .dict 2 []), (.s "c", .dict 3 [])]
    let d : J := .dict () [(.s "b", .leaf (.int 5)), (.s "c", .list () [])]
    (updNode fam t d 4).err = none ∧ d.wf = true ∧ t.wf = true ∧
    (Tr.sub [.key (.s "a")] (updNode fam t d 4).val).isNone = true ∧
    ((Tr.sub [.key (.s "b")] (updNode fam t d 4).val).map Tr.isDict) = some false ∧
    ((Tr.sub [.key (.s "c")] (updNode fam t d 4).val).map Tr.isDict) = some false ∧
    decide (1 ∉ Tr.ids (updNode fam t d 4).val) = true := by
  decide +kernel

/-- non-vacuity: a child handle is cut off by an outside rewrite that turns its position into a
scalar; a write through it afterwards leaves the backend with the outside writer's content -/
example :
    let fam : Fam := ⟨[.requireStringKey, .jsonFormat], [.requireStringKey, .jsonFormat]⟩
    let d0 : J := .dict () [(.s "a", .dict () [(.s "k", .leaf (.int 1))])]
    let d1 : J := .dict () [(.s "a", .leaf (.int 5))]
    let s := srun (State.empty [fam]) [.openObj true 0 (some d0), .ext 0 d1, .call (.root 0) (.dRead .len)]
    decide (1 ∉ flatIds s.objs) = true ∧
    (s.detached.findSome? (fun p => Tr.find 1 p.2)).isSome = true ∧ s.ownerOf 1 = some 0 ∧
    (match (call s (.node 1) (.dSetitem (.s "q") (.leaf (.int 7)))).1.store 0 with
     | some x => Tr.same x d1
     | none => false) = true := by
  decide +kernel

/-- non-vacuity of attachment: a handle two levels down (dict inside a list inside the root dict)
survives a reload that rewrites scalars around it, adds and removes keys -/
example :
    let fam : Fam := ⟨[.requireStringKey, .jsonFormat], [.requireStringKey, .jsonFormat]⟩
    let t : T := .dict 0 [(.s "a", .list 1 [.leaf (.int 1), .dict 2 [(.s "k", .leaf (.int 1))]]), (.s "b", .leaf (.int 2))]
    let d : J := .dict () [(.s "c", .leaf .null), (.s "a", .list () [.leaf (.bool true), .dict () [(.s "z", .list () [])], .leaf (.int 9)])]
    kindsMatch [.key (.s "a"), .idx 1] t d = true ∧
    ((Tr.sub [.key (.s "a"), .idx 1] (updNode fam t d 3).val).bind Tr.id?) = some 2 := by
  decide +kernel

/-- non-vacuity: a stale tree whose child must become null, one whose scalar must become a
container, and a shrinking list — the merge returns normally and the hypotheses hold. -/
example :
    let fam : Fam := ⟨[.requireStringKey, .jsonFormat], [.requireStringKey, .jsonFormat]⟩
    let t : T := .dict 0 [(.s "a", .dict 1 [(.s "k", .leaf (.int 1))]), (.s "b", .leaf (.int 2)), (.s "l", .list 2 [.leaf (.int 1), .leaf (.int 2)])]
    let d : J := .dict () [(.s "l", .list () [.leaf (.bool true)]), (.s "a", .leaf .null), (.s "b", .dict () [])]
    (updNode fam t d 3).err = none ∧ d.wf = true ∧ t.wf = true := by
  decide +kernel

end SC.Props
