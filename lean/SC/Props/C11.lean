/-
C11 — forbidden data never gets in.  The validators of every family accept exactly what the family's
requirement allows (`C11_validate_exact`: one direction is C11's rejection, the other is what the
acceptance theorems of `Props/C12.lean` rest on); memory and backends stay within the requirement
along every history.
-/
import SC.Lemmas.Invariant
import SC.Generated.Tables
namespace SC.Props
open SC Tr

/-- What a backend family promises to reject.  JSON-text backends (JSON files, Redis,
MongoDB): non-string keys, non-JSON leaves, and dotted keys for attribute-access
families.  Zarr: non-string keys only (what else is storable depends on the codec). -/
def famKeyReq (f : FamInfo) : KeyReq := if f.attr then .strNoDot else .str
def famLeafReq (f : FamInfo) : LeafReq := if f.store = .zarr then .any else .json

/-- Decidable side condition on the generated class table: *both* classes of the family
(the dict class and the list class — i.e. also every class `_from_base` can pick for a
nested child) carry validators that together enforce exactly the family's requirement. -/
def FamSpecOK (f : FamInfo) : Bool :=
  f.dictClass.isSome && f.listClass.isSome &&
  decide (keyReq f.toFam.dictV = famKeyReq f) && decide (leafReq f.toFam.dictV = famLeafReq f) &&
  decide (keyReq f.toFam.listV = famKeyReq f) && decide (leafReq f.toFam.listV = famLeafReq f)

/-- OBLIGATION on the current source (re-evaluated against the regenerated table). -/
theorem C11_table : ∀ f ∈ Generated.families, FamSpecOK f = true := by decide +kernel

theorem famReq_of_table {f : FamInfo} (hf : f ∈ Generated.families) :
    FamReq (famKeyReq f) (famLeafReq f) f.toFam := by
  have h := C11_table f hf
  simp only [FamSpecOK, Bool.and_eq_true, decide_eq_true_eq] at h
  obtain ⟨⟨⟨⟨⟨_, _⟩, h1⟩, h2⟩, h3⟩, h4⟩ := h
  exact ⟨⟨h1, h2⟩, ⟨h3, h4⟩⟩

variable {ι : Type}

/-- C11/C12, validation: for every family of the current source, every value of any
depth and width is accepted by the dict class's validators iff every key and every
leaf in it meets the family's requirement — and the same for the list class. -/
theorem C11_validate_exact {f : FamInfo} (hf : f ∈ Generated.families) (t : Tr ι) :
    (validate f.toFam.dictV t = none ↔ Tr.all (famKeyReq f) (famLeafReq f) t = true) ∧
    (validate f.toFam.listV t = none ↔ Tr.all (famKeyReq f) (famLeafReq f) t = true) := by
  obtain ⟨⟨h1, h2⟩, h3, h4⟩ := famReq_of_table hf
  exact ⟨by rw [validate_none, h1, h2], by rw [validate_none, h3, h4]⟩

/-- for the JSON-text families the requirement *is* the specification predicate `clean` -/
theorem C11_validate_iff_clean {f : FamInfo} (hf : f ∈ Generated.families) (hz : f.store ≠ .zarr)
    (t : Tr ι) :
    (validate f.toFam.dictV t = none ↔ clean f.attr t = true) ∧
    (validate f.toFam.listV t = none ↔ clean f.attr t = true) := by
  have h := C11_validate_exact hf t
  have : Tr.all (famKeyReq f) (famLeafReq f) t = clean f.attr t := by
    rw [clean_eq_all]; simp [famKeyReq, famLeafReq, hz, cleanKeyReq]
  rwa [this] at h

/-- C11, the merge: whatever data is handed to `_update` (a reload, `update()`, `reset()`
— validated or not, any depth), if memory met the requirement before, then memory and
every node that falls out of the tree meet it afterwards: nothing forbidden gets in,
also when the merge stops half-way with an error. -/
theorem C11_merge_never_admits {f : FamInfo} (hf : f ∈ Generated.families)
    (d : Tr ι) (t : T) (n : Nat) (ht : Tr.all (famKeyReq f) (famLeafReq f) t = true) :
    Tr.all (famKeyReq f) (famLeafReq f) (updNode f.toFam t d n).val = true ∧
    Tr.allL (famKeyReq f) (famLeafReq f) (updNode f.toFam t d n).det = true :=
  updNode_ok _ _ f.toFam (famReq_of_table hf).1 (famReq_of_table hf).2 d t n ht

/-- every error validation raises is a `TypeError` or `ValueError` subclass -/
theorem C11_error_class (vs : List Validator) (t : Tr ι) (e : Err)
    (h : validate vs t = some e) : e.isTypeOrValueError = true :=
  validate_TV vs t e h

/-- C11, rejection changes nothing: if the validation that precedes an operation
(`__setitem__`, `insert`, `append`, `extend`, `+=`, ...) rejects its argument, the call
raises that error and memory of every object, every backend and every handle is exactly
as before. -/
theorem C11_rejected_changes_nothing (s : State) (h : Handle) (op : Op) (oi : Nat) (isRoot : Bool)
    (t0 : T) (o : Obj) (e : Err)
    (ho : handleOwner s h = some (oi, isRoot)) (hn : handleNode s h = some t0)
    (hobj : s.objs[oi]? = some o)
    (hv : preValidate (s.fam o) t0.isDict op = some e) :
    call s h op = (s, .error e) := by
  unfold call
  simp only [ho, hn, hobj]
  unfold callOn
  simp only [hv]

theorem srun_clean {f : FamInfo} (hf : f ∈ Generated.families) (W : J → Prop)
    (hW : ∀ d : J, Tr.all (famKeyReq f) (famLeafReq f) d = true → W d)
    (history : List SStep) (s : State) (hfs : s.fams = [f.toFam])
    (hext : ∀ st ∈ history, ∀ r d, st = .ext r d → W d)
    (h : Clean (famKeyReq f) (famLeafReq f) W s) :
    Clean (famKeyReq f) (famLeafReq f) W (srun s history) ∧ (srun s history).fams = [f.toFam] := by
  refine srun_induct (I := fun x => Clean (famKeyReq f) (famLeafReq f) W x ∧ x.fams = [f.toFam]) ⟨h, hfs⟩ ?_
  intro s st hst ⟨h, hfs⟩
  cases st with
  | call hd op => exact ⟨h.after_call hW hd op, (call_fams s hd op).trans hfs⟩
  | openObj d r data =>
    exact ⟨h.after_openObj 0 d r data (by rw [hfs]; exact famReq_of_table hf),
      (openObj_fams s 0 d r data).trans hfs⟩
  | ext r d => exact ⟨h.after_ext r d (hext _ hst r d rfl), hfs⟩

/-- C11 along EVERY history.  Start from the empty state of any family of the current source and
run any sequence of public calls (every operation, through root objects and through child handles
at any depth, attached or detached, with any arguments), constructor calls with any data, and
outside writers that may write ANYTHING (also forbidden data).  At every point the tree of every
object and every node that ever fell out of a tree contains only keys and leaves the family allows:
forbidden data never reaches memory — not through an argument, not through a reload of a file
that holds forbidden data. -/
theorem C11_memory_clean_after_any_history {f : FamInfo} (hf : f ∈ Generated.families) (history : List SStep) :
    let s := srun (State.empty [f.toFam]) history
    (∀ o ∈ s.objs, Tr.all (famKeyReq f) (famLeafReq f) o.root = true) ∧
    (∀ p ∈ s.detached, Tr.all (famKeyReq f) (famLeafReq f) p.2 = true) := by
  have := (srun_clean hf (fun _ => True) (fun _ _ => trivial) history _ rfl (fun _ _ _ _ _ => trivial)
    (empty_clean _)).1
  exact ⟨this.objs, this.det⟩

/-- ... and the backends: if the outside writers (if any) write allowed data only, every backend
holds allowed data only at every point of every history: what the library writes is never
forbidden. -/
theorem C11_backend_clean_after_any_history {f : FamInfo} (hf : f ∈ Generated.families) (history : List SStep)
    (hext : ∀ st ∈ history, ∀ r d, st = .ext r d → Tr.all (famKeyReq f) (famLeafReq f) d = true) :
    ∀ p ∈ (srun (State.empty [f.toFam]) history).stores, Tr.all (famKeyReq f) (famLeafReq f) p.2 = true :=
  (srun_clean hf _ (fun _ h => h) history _ rfl hext (empty_clean _)).1.stores

end SC.Props
