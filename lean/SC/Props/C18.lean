/-
C18 — nested containers keep the root's family; attribute access equals item access.
-/
import SC.Attr
import SC.Generated.Tables
namespace SC.Props
open SC SC.Attr

variable {ι : Type}

/-- OBLIGATION on the current source: in every family, the classes `_from_base` picks for a
nested mapping and a nested sequence — whether the data is plain or a synced collection of
another family — are the family's own dict and list class (so a wrong `_backend` string, or a
shortcut that keeps the source's class, shows here), and every family has exactly these two. -/
theorem C18_family_closed : ∀ f ∈ Generated.families, familyClosed f = true := by decide +kernel

/-- OBLIGATION on the current source: every attribute a freshly constructed attribute-access
dict carries in its `__dict__` is a protected name — the condition under which construction
itself does not leak internals into the data, and the one that breaks when a new internal
attribute is introduced. -/
theorem C18_ctor_attrs_protected :
    ∀ f ∈ Generated.families, ∀ c ∈ f.classes, ctorAttrsProtected c = true := by decide +kernel

/-- C18, attribute = item: for every class description, every dict node and every key that is
not protected, not a dunder and not an attribute of the class or the instance,
`obj.k`, `obj.k = v` and `del obj.k` are exactly `obj[k]`, `obj[k] = v`, `del obj[k]` with
`KeyError` turned into `AttributeError` — at every depth (the node is arbitrary). -/
theorem C18_attr_eq_item (c : Cls) (i : ι) (kvs : List (Key × Tr ι)) (k : String) (v : Tr ι)
    (hp : k ∉ c.protectedKeys) (hc : k ∉ c.classAttrs)
    (hi : k ∉ c.instAttrs) :
    attrGet c false i kvs k = .data (keyErrToAttrErr (dictRead i kvs (.getitem (.s k)))) ∧
    attrSet c false kvs k v = .data (dictMut kvs (.setitem (.s k) v)) ∧
    attrDel c false kvs k = .data (keyErrToAttrErr (dictMut kvs (.delitem (.s k)))) := by
  simp [attrGet, attrSet, attrDel, getRoute, setRoute, delRoute, hp, hc, hi]

/-- a missing key gives `AttributeError` in all three attribute forms that can miss -/
theorem C18_missing_is_attribute_error (c : Cls) (i : ι) (kvs : List (Key × Tr ι)) (k : String)
    (hp : k ∉ c.protectedKeys) (hc : k ∉ c.classAttrs)
    (hi : k ∉ c.instAttrs) (hm : Tr.lookup (.s k) kvs = none) :
    attrGet c false i kvs k = .data (.error .attributeError) ∧
    attrDel c false kvs k = .data (.error .attributeError) := by
  simp [attrGet, attrDel, getRoute, setRoute, delRoute, hp, hc, hi, dictRead, dictMut, hm, keyErrToAttrErr]

/-- C18, protected names: `obj.k = v` and `del obj.k` with a protected name (or a dunder) address
the object and never touch the data, whatever the data holds under that key. -/
theorem C18_protected_addresses_object (c : Cls) (d : Bool) (kvs : List (Key × Tr ι)) (k : String) (v : Tr ι)
    (hp : k ∈ c.protectedKeys ∨ d = true) :
    attrSet c d kvs k v = .object ∧ attrDel c d kvs k = .object := by
  rcases hp with hp | hp <;> simp [attrSet, attrDel, setRoute, delRoute, hp]

/-- ... and `obj.k` for a protected name that IS an attribute of the instance or the class
returns that attribute, also when the data holds an item of the same name. -/
theorem C18_protected_get_addresses_object (c : Cls) (d : Bool) (i : ι) (kvs : List (Key × Tr ι)) (k : String)
    (ha : k ∈ c.instAttrs ∨ k ∈ c.classAttrs) :
    attrGet c d i kvs k = .object := by
  rcases ha with ha | ha <;> simp [attrGet, getRoute, ha]

/-- KNOWN FINDING, in the model: a protected name that is NOT currently an attribute of the
object falls through to the data on `obj.k` (the repository's own test suite pins this
behaviour: `del obj._root` followed by `obj._load()` is expected to recurse). -/
theorem C18_counterexample_stale_protected_get :
    attrGet (⟨["_name"], [], []⟩ : Cls) false () [(.s "_name", (.leaf (.int 1) : J))] "_name"
      = .data (.ok (.node (.leaf (.int 1)))) := by
  simp [attrGet, getRoute, dictRead, Tr.lookup, keyErrToAttrErr]

/-- C18, item syntax never disturbs the object: `obj[k] = v` / `del obj[k]` are operations on
the data alone — their results do not depend on the class description at all (any key,
protected names included). -/
theorem C18_item_never_disturbs (c1 c2 : Cls) (kvs : List (Key × Tr ι)) (k : String) (v : Tr ι)
    (h1 : setRoute c1 false k = .item) (h2 : setRoute c2 false k = .item) :
    attrSet c1 false kvs k v = attrSet c2 false kvs k v := by
  simp [attrSet, h1, h2]

/-- non-vacuity on the current source: `JSONAttrDict` routes an ordinary key to the data and
`_data` to the object. -/
example :
    (Generated.fam3.classes.head?.map (fun ci =>
      (setRoute (Cls.ofInfo ci) false "alpha", setRoute (Cls.ofInfo ci) false "_data",
       getRoute (Cls.ofInfo ci) false "_data", getRoute (Cls.ofInfo ci) false "alpha")))
      = some (.item, .object, .object, .item) := by
  decide +kernel

end SC.Props
