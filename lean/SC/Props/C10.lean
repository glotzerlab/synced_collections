/-
C10 — no operation leaks a lock; no interleaving deadlocks.
-/
import SC.Lemmas.Conc
import SC.Generated.Tables
namespace SC.Props
open SC SC.Conc

/-- C10 (a): the lock bracket of an operation, as written in `_LoadAndSave` /
`_BufferedLoadAndSave` (`__enter__` releases what it took when the load raises; `__exit__` saves
in `try` and releases in `finally`): for buffered and unbuffered classes, with or without the
initial load, and wherever the operation raises (load, body, save) or not at all — no lock is
held afterwards. -/
theorem C10_no_lock_leaked :
    ∀ (buffered noLoad : Bool) (f : Bracket.Fail),
      Bracket.held (Bracket.trace buffered noLoad f) [] = [] := by
  intro b n f; cases b <;> cases n <;> cases f <;> decide

/-- C10 (b), lock order on the current brackets: the buffer lock is never requested while the
file lock is held. -/
theorem C10_bracket_lock_order :
    ∀ (buffered noLoad : Bool) (f : Bracket.Fail),
      Bracket.ordered (Bracket.trace buffered noLoad f) [] = true := by
  intro b n f; cases b <;> cases n <;> cases f <;> decide

/-- C10 (b), deadlock freedom: for ANY number of threads and locks, if every blocked thread
waits for a lock ranked above all the locks it holds (buffer lock < file locks < class lock),
then no set of threads waits for each other. -/
theorem C10_no_deadlock (rank : Nat → Nat) (ths : List Locks.ThL) (ho : Locks.Ordered rank ths) :
    ¬ Locks.Deadlocked ths :=
  Locks.no_deadlock rank ths ho

/-- C10 (b) with the hypothesis in the form the harness audits on the real code: every acquisition
observed (a thread about to take lock `w` while holding `holds`) passes `Locks.acquireOk` for the
roles buffer < file < class-registry.  Then no deadlock, for any number of threads and locks. -/
theorem C10_no_deadlock_audited (role : Nat → Locks.Role) (ths : List Locks.ThL)
    (h : ∀ th ∈ ths, ∀ w, th.waits = some w → Locks.acquireOk (th.holds.map role) (role w) = true) :
    ¬ Locks.Deadlocked ths :=
  Locks.no_deadlock _ ths (Locks.ordered_of_audit role ths h)

/-- the audit rejects exactly the inversions: taking a file lock while holding the class lock,
or the buffer lock while holding a file lock; two different file locks at once are rejected too -/
example : Locks.acquireOk [.cls] .file = false ∧ Locks.acquireOk [.file] .buffer = false ∧
    Locks.acquireOk [.file] .file = false ∧ Locks.acquireOk [.buffer, .file] .cls = true := by decide +kernel

/-- the model exhibits the defect the property excludes: the bracket without the release in
`__enter__` (the code before the fix) leaves the file lock held when the load raises. -/
theorem C10_old_bracket_leaks : Bracket.held [Bracket.Ev.acq .file, .load] [] ≠ [] := by decide

/-- non-vacuity of the deadlock theorem's notions: a lock-order inversion IS a deadlock -/
example : Locks.Deadlocked [⟨[0], some 1⟩, ⟨[1], some 0⟩] := by
  refine ⟨⟨⟨[0], some 1⟩, by simp, rfl⟩, ?_⟩
  intro th hth w hw
  simp only [List.mem_cons, List.not_mem_nil, or_false] at hth
  rcases hth with rfl | rfl
  · simp at hw; subst hw; exact ⟨⟨[1], some 0⟩, by simp, by simp, rfl⟩
  · simp at hw; subst hw; exact ⟨⟨[0], some 1⟩, by simp, by simp, rfl⟩

/-- C10 (b'), why nested FILE locks inside a buffered context cannot deadlock: there the first load
of a file takes that file's lock while another file's lock may be held (reading a synced operand
on another file, a forced flush), which the strict hierarchy forbids - but always under the
class-wide buffer lock.  With the buffer lock as a gate (held by one thread at a time; held by
whoever holds a file lock; locks re-entrant) no interleaving deadlocks.  (The premises about the
gate are part of the bracket correspondence: buffered brackets take the buffer lock first and
release it last; they are not audited acquisition by acquisition, which is why synced operands
on another file are audited in unbuffered mode only.) -/
theorem C10_no_deadlock_gated (rank : Nat → Nat) (g r : Nat) (ths : List Locks.ThL)
    (ho : Locks.OrderedG rank g r ths)
    (hG : ∀ u ∈ ths, ∀ l ∈ u.holds, rank l = r → g ∈ u.holds)
    (hex : ∀ th ∈ ths, ∀ u ∈ ths, g ∈ th.holds → g ∈ u.holds → th = u)
    (hself : ∀ th ∈ ths, ∀ w, th.waits = some w → w ∉ th.holds) :
    ¬ Locks.Deadlocked ths :=
  Locks.no_deadlock_gated rank g r ths ho hG hex hself

/-- non-vacuity: thread 0 holds the gate (lock 0) and file a (lock 1) and waits for file b (lock 2),
which thread 1 ... cannot hold without the gate: the premises are satisfiable with thread 1 idle -/
example : Locks.OrderedG (fun l => if l = 0 then 0 else 1) 0 1 [⟨[0, 1], some 2⟩, ⟨[], none⟩] := by
  intro th hth w hw l hl
  simp only [List.mem_cons, List.not_mem_nil, or_false] at hth
  rcases hth with rfl | rfl
  · simp only [Option.some.injEq] at hw; subst hw
    simp only [List.mem_cons, List.not_mem_nil, or_false] at hl
    rcases hl with rfl | rfl
    · left; decide
    · right; decide
  · simp at hw

/-- OBLIGATION on the current source: A LOAD TAKES NO LOCK.  Every load goes through the in-place
merge `_update`; in every concrete class the merge calls no public mutator on the collection (each
would enter the load-and-save context, i.e. acquire the thread lock) and enters no context but the
suspension of synchronisation.  This is the hypothesis under which reading a synced operand inside
another collection's write context acquires nothing (`C10_no_deadlock_audited`); the pinned tree
violated it (`SyncedList._update` extended through the public `extend()`: two mirror-image writes
could deadlock - fixed by 37b4be4). -/
theorem C10_merge_takes_no_lock_table :
    ∀ f ∈ Generated.families, ∀ c ∈ f.classes,
      c.mergeCalls = [] ∧ c.mergeCtxs.all (fun x => x == Ctx.suspendSync) = true := by decide +kernel

end SC.Props
