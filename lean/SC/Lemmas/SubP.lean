/-
"Up to order, a selection": the content of a container after a built-in `dict` / `list` method is,
up to order, a selection of the old elements and the new ones, each used at most once, and what the
method removed was among the old elements.  This is what carries pairwise distinct identities — and
every property that holds element by element — through the plain methods of every operation body.
-/
import SC.Builtin
import SC.Lemmas.TrList
namespace SC
variable {α β : Type}

/-- `ys` is, up to order, a selection of the elements of `zs` (each occurrence used at most once) -/
def SubP (ys zs : List α) : Prop := ∃ ws, ys.Perm ws ∧ ws.Sublist zs

namespace SubP

theorem refl (l : List α) : SubP l l := ⟨l, .refl _, .refl _⟩
theorem of_sublist {ys zs : List α} (h : ys.Sublist zs) : SubP ys zs := ⟨ys, .refl _, h⟩
theorem of_perm {ys zs : List α} (h : ys.Perm zs) : SubP ys zs := ⟨zs, h, .refl _⟩

theorem trans {xs ys zs : List α} (h1 : SubP xs ys) (h2 : SubP ys zs) : SubP xs zs := by
  obtain ⟨a, pa, sa⟩ := h1
  obtain ⟨b, pb, sb⟩ := h2
  obtain ⟨a', pa', sa'⟩ := List.exists_perm_sublist sa pb
  exact ⟨a', pa.trans pa'.symm, sa'.trans sb⟩

theorem append {a b c d : List α} (h1 : SubP a b) (h2 : SubP c d) : SubP (a ++ c) (b ++ d) := by
  obtain ⟨x, px, sx⟩ := h1
  obtain ⟨y, py, sy⟩ := h2
  exact ⟨x ++ y, px.append py, sx.append sy⟩

theorem cons (x : α) {a b : List α} (h : SubP a b) : SubP (x :: a) (x :: b) := by
  obtain ⟨w, pw, sw⟩ := h
  exact ⟨x :: w, pw.cons x, sw.cons_cons x⟩

theorem append_right {ys zs : List α} (h : SubP ys zs) (ws : List α) : SubP ys (zs ++ ws) :=
  h.trans (of_sublist (List.sublist_append_left zs ws))

theorem nodup {ys zs : List α} (h : SubP ys zs) (hn : zs.Nodup) : ys.Nodup := by
  obtain ⟨w, pw, sw⟩ := h
  exact (List.Nodup.sublist sw hn).perm pw.symm

theorem subset {ys zs : List α} (h : SubP ys zs) : ∀ a ∈ ys, a ∈ zs := by
  obtain ⟨w, pw, sw⟩ := h
  intro a ha
  exact sw.subset (pw.subset ha)

theorem flatMap (f : α → List β) {ys zs : List α} (h : SubP ys zs) :
    SubP (ys.flatMap f) (zs.flatMap f) := by
  obtain ⟨w, pw, sw⟩ := h
  exact ⟨w.flatMap f, pw.flatMap_right f, flatMap_sublist f sw⟩

theorem of_nodup_subset {l r : List α} (hn : l.Nodup) (hs : ∀ a ∈ l, a ∈ r) : SubP l r := by
  induction l generalizing r with
  | nil => exact of_sublist (List.nil_sublist _)
  | cons a l ih =>
    -- take `a` out of `r`: the rest of `l` does not need it
    obtain ⟨r₁, r₂, rfl⟩ := List.append_of_mem (hs a List.mem_cons_self)
    have hn' := List.nodup_cons.mp hn
    have : SubP l (r₁ ++ r₂) := ih hn'.2 fun b hb =>
      (List.mem_cons.mp (List.perm_middle.mem_iff.mp (hs b (List.mem_cons_of_mem _ hb)))).resolve_left
        fun e => hn'.1 (e ▸ hb)
    exact (this.cons a).trans (of_perm List.perm_middle.symm)

end SubP

theorem set_subp : ∀ (xs : List α) (j : Nat) (v : α), SubP (xs.set j v) (xs ++ [v])
  | [], _, _ => SubP.of_sublist (by simp)
  | x :: xs, 0, v => by
    simp only [List.set_cons_zero, List.cons_append]
    refine ⟨xs ++ [v], ?_, List.Sublist.cons _ (List.Sublist.refl _)⟩
    exact (List.perm_append_singleton v xs).symm
  | x :: xs, j + 1, v => by
    simp only [List.set_cons_succ, List.cons_append]
    exact SubP.cons x (set_subp xs j v)

theorem setMany_subp : ∀ (is : List Nat) (vs : List α) (xs : List α), SubP (Py.setMany xs is vs) (xs ++ vs)
  | [], vs, xs => by simp only [Py.setMany]; exact SubP.of_sublist (List.sublist_append_left _ _)
  | _ :: _, [], xs => by simp only [Py.setMany]; exact SubP.of_sublist (List.sublist_append_left _ _)
  | i :: is, v :: vs, xs => by
    rw [Py.setMany, List.append_cons]
    exact (setMany_subp is vs (xs.set i v)).trans ((set_subp xs i v).append (.refl vs))

/-- slice assignment `xs[a:b] = vs` -/
theorem splice_subp (xs vs : List α) {a b : Nat} (h : a ≤ b) : SubP (xs.take a ++ vs ++ xs.drop b) (xs ++ vs) := by
  have h1 : (xs.take a ++ xs.drop b).Sublist (xs.take a ++ xs.drop a) :=
    (List.Sublist.refl _).append (List.drop_sublist_drop_left xs h)
  rw [List.take_append_drop] at h1
  refine (SubP.of_perm ?_).trans ((SubP.of_sublist h1).append (.refl vs))
  rw [List.append_assoc, List.append_assoc]
  exact List.Perm.append_left _ List.perm_append_comm

theorem eraseMany_sublist (xs : List α) (is : List Nat) : (Py.eraseMany xs is).Sublist xs := by
  unfold Py.eraseMany
  have h : ((xs.zipIdx.filter (fun p => !is.contains p.2)).map (·.1)).Sublist (xs.zipIdx.map (·.1)) :=
    List.Sublist.map _ List.filter_sublist
  simpa using h

theorem insertAt_perm (xs : List α) (i : Int) (x : α) : (Py.insertAt xs i x).Perm (xs ++ [x]) := by
  unfold Py.insertAt
  simp only
  generalize (if i < 0 then (if i + (xs.length : Int) < 0 then 0 else i + (xs.length : Int))
      else (if i > (xs.length : Int) then (xs.length : Int) else i)).toNat = j
  have h1 : (xs.take j ++ x :: xs.drop j).Perm (x :: (xs.take j ++ xs.drop j)) := List.perm_middle
  rw [List.take_append_drop] at h1
  exact h1.trans (List.perm_append_singleton x xs).symm

/-- the new elements an operation brings in -/
def ListMut.news : ListMut α → List α
  | .setitem _ v => [v]
  | .setslice _ vs => vs
  | .insert _ v => [v]
  | .append v => [v]
  | .extend vs => vs
  | _ => []

def DictMut.news : DictMut α → List (Key × α)
  | .setitem k v => [(k, v)]
  | _ => []

theorem listMut_sel {ι : Type} (xs : List (Tr ι)) (m : ListMut (Tr ι)) (r : BodyRes (List (Tr ι)) ι)
    (h : listMut xs m = .ok r) : SubP r.data (xs ++ ListMut.news m) ∧ ∀ x ∈ r.removed, x ∈ xs := by
  have hget : ∀ j, ∀ x ∈ (xs[j]?).toList, x ∈ xs := fun j x hx => List.mem_of_getElem? (Option.mem_toList.mp hx)
  have hgets : ∀ is : List Nat, ∀ x ∈ is.filterMap (xs[·]?), x ∈ xs := fun is x hx =>
    have ⟨_, _, hi⟩ := List.mem_filterMap.mp hx
    List.mem_of_getElem? hi
  cases m with
  | setitem i v =>
    simp only [listMut] at h
    split at h
    · cases h
    · cases h; exact ⟨set_subp xs _ v, hget _⟩
  | setslice s vs =>
    simp only [listMut] at h
    split at h
    · cases h
    · split at h
      · cases h
        exact ⟨splice_subp xs vs (Int.toNat_le_toNat (Int.le_max_left ..)),
          fun x hx => List.mem_of_mem_drop (List.mem_of_mem_take hx)⟩
      · split at h
        · cases h
        · cases h; exact ⟨setMany_subp _ vs xs, hgets _⟩
  | delitem ix =>
    cases ix with
    | i i =>
      simp only [listMut] at h
      split at h
      · cases h
      · cases h; exact ⟨.append_right (.of_sublist (List.eraseIdx_sublist xs _)) _, hget _⟩
    | sl s =>
      simp only [listMut] at h
      split at h
      · cases h
      · cases h; exact ⟨.append_right (.of_sublist (eraseMany_sublist xs _)) _, hgets _⟩
  | insert i v => simp only [listMut] at h; cases h; exact ⟨.of_perm (insertAt_perm xs i v), nofun⟩
  | append v => simp only [listMut] at h; cases h; exact ⟨.refl _, nofun⟩
  | extend vs => simp only [listMut] at h; cases h; exact ⟨.refl _, nofun⟩
  | remove v =>
    simp only [listMut] at h
    split at h
    · cases h
    · cases h; exact ⟨.append_right (.of_sublist (List.eraseIdx_sublist xs _)) _, hget _⟩
  | clear => simp only [listMut] at h; cases h; exact ⟨.of_sublist (List.nil_sublist _), fun _ hx => hx⟩
  | pop i =>
    simp only [listMut] at h
    split at h
    · cases h
    · split at h
      · cases h
      · next hx =>
        cases h
        exact ⟨.append_right (.of_sublist (List.eraseIdx_sublist xs _)) _,
          List.forall_mem_singleton.mpr (List.mem_of_getElem? hx)⟩
  | reverse => simp only [listMut] at h; cases h; exact ⟨.append_right (.of_perm (List.reverse_perm xs)) _, nofun⟩

theorem listMut_subp {ι : Type} (xs : List (Tr ι)) (m : ListMut (Tr ι)) (r : BodyRes (List (Tr ι)) ι)
    (h : listMut xs m = .ok r) : SubP r.data (xs ++ ListMut.news m) := (listMut_sel xs m r h).1

theorem setKey_subp (k : Key) (v : α) : ∀ (kvs : List (Key × α)), SubP (Tr.setKey k v kvs) (kvs ++ [(k, v)])
  | [] => SubP.refl _
  | (k', v') :: rest => by
    simp only [Tr.setKey]
    split
    · simp only [List.cons_append]
      exact ⟨rest ++ [(k, v)], (List.perm_append_singleton (k, v) rest).symm,
        List.Sublist.cons _ (List.Sublist.refl _)⟩
    · simp only [List.cons_append]
      exact SubP.cons _ (setKey_subp k v rest)

/-- `__setitem__` is kept as `setKey`, the rest as `Sublist`, where `listMut_sel` has one `SubP`: that keys
stay unique is read off these two forms (`dmutRes_wf`), not off a selection up to order -/
theorem dictMut_sel {ι : Type} (kvs : List (Key × Tr ι)) (m : DictMut (Tr ι))
    (r : BodyRes (List (Key × Tr ι)) ι) (h : dictMut kvs m = .ok r) :
    ((∃ k v, m = .setitem k v ∧ r.data = Tr.setKey k v kvs) ∨ r.data.Sublist kvs) ∧
      ∀ x ∈ r.removed, ∃ k, (k, x) ∈ kvs := by
  cases m with
  | setitem k v =>
    simp only [dictMut] at h; cases h
    exact ⟨.inl ⟨k, v, rfl, rfl⟩, fun x hx => ⟨k, mem_of_lookup (Option.mem_toList.mp hx)⟩⟩
  | delitem k =>
    simp only [dictMut] at h
    split at h
    · cases h
    · next hl => cases h; exact ⟨.inr (sublist_delKey k kvs), List.forall_mem_singleton.mpr ⟨k, mem_of_lookup hl⟩⟩
  | pop k d =>
    simp only [dictMut] at h
    split at h
    · cases h; exact ⟨.inr (.refl _), nofun⟩
    · next hl => cases h; exact ⟨.inr (sublist_delKey k kvs), List.forall_mem_singleton.mpr ⟨k, mem_of_lookup hl⟩⟩
  | popitem =>
    simp only [dictMut] at h
    split at h
    · cases h
    · next k v hl =>
      cases h; exact ⟨.inr (List.dropLast_sublist kvs), List.forall_mem_singleton.mpr ⟨k, List.mem_of_getLast? hl⟩⟩
  | clear =>
    simp only [dictMut] at h; cases h
    exact ⟨.inr (List.nil_sublist _), fun x hx => have ⟨p, hp, e⟩ := List.mem_map.mp hx; ⟨p.1, e ▸ hp⟩⟩

theorem dictMut_subp {ι : Type} (kvs : List (Key × Tr ι)) (m : DictMut (Tr ι))
    (r : BodyRes (List (Key × Tr ι)) ι) (h : dictMut kvs m = .ok r) :
    SubP r.data (kvs ++ DictMut.news m) := by
  rcases (dictMut_sel kvs m r h).1 with ⟨k, v, rfl, hd⟩ | hs
  · rw [hd]; exact setKey_subp k v kvs
  · exact .append_right (.of_sublist hs) _

theorem iterate_cases {ι : Type} {t : Tr ι} {vs : List (Tr ι)} (h : iterate t = .ok vs) :
    (∃ i, t = .list i vs) ∨ ∀ x ∈ vs, (∃ s, x = .leaf (.str s)) ∨ ∃ i, x = .leaf (.int i) := by
  cases t with
  | list i xs => cases h; exact .inl ⟨i, rfl⟩
  | dict i kvs =>
    cases h
    refine .inr fun x hx => ?_
    obtain ⟨kv, _, rfl⟩ := List.mem_map.mp hx
    split
    · exact .inl ⟨_, rfl⟩
    · exact .inr ⟨_, rfl⟩
  | leaf s =>
    cases s
    case str st =>
      cases h
      refine .inr fun x hx => ?_
      obtain ⟨c, _, rfl⟩ := List.mem_map.mp hx
      exact .inl ⟨_, rfl⟩
    all_goals cases h

end SC
