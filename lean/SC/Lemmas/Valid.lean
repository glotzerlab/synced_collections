/-
What a list of validators enforces is a requirement on every mapping key (at every depth, through
mappings *and* sequences) and one on every leaf: `validate vs t = none ↔ Tr.all (keyReq vs)
(leafReq vs) t`, for every list of validators and every (unboundedly deep / wide) value.  The first
half of the file is about `Tr.all` alone: lists and bindings, children, relabelling.
-/
import SC.Lemmas.TrList
namespace SC

/-- what a validator of `validators.py` requires of every mapping key: nothing, a `str`, a `str` without a dot -/
inductive KeyReq | any | str | strNoDot
deriving DecidableEq, Repr

/-- ... and of every leaf: nothing, or a JSON scalar (`Scalar.isClean`) -/
inductive LeafReq | any | json
deriving DecidableEq, Repr

namespace KeyReq
def ok : KeyReq → Key → Bool
  | .any, _ => true
  | .str, k => k.isStr
  | .strNoDot, .s s => !hasDot s
  | .strNoDot, .n _ => false
def meet : KeyReq → KeyReq → KeyReq
  | .any, b => b
  | a, .any => a
  | .str, .str => .str
  | _, _ => .strNoDot
theorem ok_meet (a b : KeyReq) (k : Key) : (a.meet b).ok k = (a.ok k && b.ok k) := by
  cases a <;> cases b <;> cases k <;> simp [meet, ok, Key.isStr]
end KeyReq

namespace LeafReq
def ok : LeafReq → Scalar → Bool
  | .any, _ => true
  | .json, s => s.isClean
def meet : LeafReq → LeafReq → LeafReq
  | .any, b => b
  | a, .any => a
  | .json, .json => .json
theorem ok_meet (a b : LeafReq) (s : Scalar) : (a.meet b).ok s = (a.ok s && b.ok s) := by
  cases a <;> cases b <;> simp [meet, ok]
end LeafReq

variable {ι : Type}

namespace Tr
mutual
/-- the two requirements hold throughout: `kr` of every key of every mapping, `lr` of every leaf, at every depth -/
def all (kr : KeyReq) (lr : LeafReq) : Tr ι → Bool
  | .leaf s => lr.ok s
  | .list _ xs => allL kr lr xs
  | .dict _ kvs => allKV kr lr kvs
def allL (kr : KeyReq) (lr : LeafReq) : List (Tr ι) → Bool
  | [] => true
  | x :: xs => all kr lr x && allL kr lr xs
def allKV (kr : KeyReq) (lr : LeafReq) : List (Key × Tr ι) → Bool
  | [] => true
  | (k, v) :: kvs => kr.ok k && all kr lr v && allKV kr lr kvs
end

mutual
theorem all_meet (a b : KeyReq) (c d : LeafReq) :
    ∀ t : Tr ι, all (a.meet b) (c.meet d) t = (all a c t && all b d t)
  | .leaf s => LeafReq.ok_meet c d s
  | .list _ xs => allL_meet a b c d xs
  | .dict _ kvs => allKV_meet a b c d kvs
theorem allL_meet (a b : KeyReq) (c d : LeafReq) :
    ∀ xs : List (Tr ι), allL (a.meet b) (c.meet d) xs = (allL a c xs && allL b d xs)
  | [] => rfl
  | x :: xs => by
    simp only [allL, all_meet a b c d x, allL_meet a b c d xs]
    ac_rfl
theorem allKV_meet (a b : KeyReq) (c d : LeafReq) :
    ∀ kvs : List (Key × Tr ι), allKV (a.meet b) (c.meet d) kvs = (allKV a c kvs && allKV b d kvs)
  | [] => rfl
  | (k, v) :: kvs => by
    simp only [allKV, KeyReq.ok_meet, all_meet a b c d v, allKV_meet a b c d kvs]
    ac_rfl
end

mutual
theorem all_mono {a b : KeyReq} {c d : LeafReq} (hk : ∀ k, a.ok k = true → b.ok k = true)
    (hs : ∀ s, c.ok s = true → d.ok s = true) :
    ∀ t : Tr ι, all a c t = true → all b d t = true
  | .leaf s => hs s
  | .list _ xs => allL_mono hk hs xs
  | .dict _ kvs => allKV_mono hk hs kvs
theorem allL_mono {a b : KeyReq} {c d : LeafReq} (hk : ∀ k, a.ok k = true → b.ok k = true)
    (hs : ∀ s, c.ok s = true → d.ok s = true) :
    ∀ xs : List (Tr ι), allL a c xs = true → allL b d xs = true
  | [] => fun _ => rfl
  | x :: xs => by
    simp only [allL, Bool.and_eq_true]
    exact fun h => ⟨all_mono hk hs x h.1, allL_mono hk hs xs h.2⟩
theorem allKV_mono {a b : KeyReq} {c d : LeafReq} (hk : ∀ k, a.ok k = true → b.ok k = true)
    (hs : ∀ s, c.ok s = true → d.ok s = true) :
    ∀ kvs : List (Key × Tr ι), allKV a c kvs = true → allKV b d kvs = true
  | [] => fun _ => rfl
  | (k, v) :: kvs => by
    simp only [allKV, Bool.and_eq_true]
    exact fun h => ⟨⟨hk k h.1.1, all_mono hk hs v h.1.2⟩, allKV_mono hk hs kvs h.2⟩
end

def cleanKeyReq (nodot : Bool) : KeyReq := if nodot then .strNoDot else .str

mutual
/-- the C11/C12 specification predicate in the same vocabulary -/
theorem clean_eq_all (nodot : Bool) : ∀ t : Tr ι, clean nodot t = all (cleanKeyReq nodot) .json t
  | .leaf _ => rfl
  | .list _ xs => cleanL_eq_allL nodot xs
  | .dict _ kvs => cleanKV_eq_allKV nodot kvs
theorem cleanL_eq_allL (nodot : Bool) :
    ∀ xs : List (Tr ι), cleanL nodot xs = allL (cleanKeyReq nodot) .json xs
  | [] => rfl
  | x :: xs => by simp [cleanL, allL, clean_eq_all nodot x, cleanL_eq_allL nodot xs]
theorem cleanKV_eq_allKV (nodot : Bool) :
    ∀ kvs : List (Key × Tr ι), cleanKV nodot kvs = allKV (cleanKeyReq nodot) .json kvs
  | [] => rfl
  | (k, v) :: kvs => by
    simp only [cleanKV, allKV, clean_eq_all nodot v, cleanKV_eq_allKV nodot kvs]
    cases k <;> cases nodot <;> simp [cleanKeyReq, KeyReq.ok, Key.isStr, hasDot]
end
end Tr

open Tr

section kv
variable (kr : KeyReq) (lr : LeafReq)

theorem allL_iff {xs : List (Tr ι)} : Tr.allL kr lr xs = true ↔ ∀ x ∈ xs, Tr.all kr lr x = true := by
  induction xs with
  | nil => simp [Tr.allL]
  | cons x xs ih => simp only [Tr.allL, Bool.and_eq_true, ih, List.forall_mem_cons]

theorem allKV_iff_forall {kvs : List (Key × Tr ι)} :
    Tr.allKV kr lr kvs = true ↔ ∀ p ∈ kvs, kr.ok p.1 = true ∧ Tr.all kr lr p.2 = true := by
  induction kvs with
  | nil => simp [Tr.allKV]
  | cons q qs ih => simp only [Tr.allKV, Bool.and_eq_true, ih, List.forall_mem_cons, and_assoc]

theorem allL_append (a b : List (Tr ι)) :
    Tr.allL kr lr (a ++ b) = (Tr.allL kr lr a && Tr.allL kr lr b) := by
  induction a with
  | nil => simp [Tr.allL]
  | cons p a ih => simp [Tr.allL, ih, Bool.and_assoc]

theorem allKV_append (a b : List (Key × Tr ι)) :
    Tr.allKV kr lr (a ++ b) = (Tr.allKV kr lr a && Tr.allKV kr lr b) := by
  induction a with
  | nil => simp [Tr.allKV]
  | cons p a ih => simp [Tr.allKV, ih, Bool.and_assoc]

theorem allL_filter {xs : List (Tr ι)} (p : Tr ι → Bool) (h : Tr.allL kr lr xs = true) :
    Tr.allL kr lr (xs.filter p) = true :=
  (allL_iff kr lr).mpr fun x hx => (allL_iff kr lr).mp h x (List.mem_filter.mp hx).1

theorem allKV_of_subset {a b : List (Key × Tr ι)} (hs : ∀ p ∈ a, p ∈ b) (h : Tr.allKV kr lr b = true) :
    Tr.allKV kr lr a = true :=
  (allKV_iff_forall kr lr).mpr fun p hp => (allKV_iff_forall kr lr).mp h p (hs p hp)

theorem allKV_filter {kvs : List (Key × Tr ι)} (p : Key × Tr ι → Bool)
    (h : Tr.allKV kr lr kvs = true) : Tr.allKV kr lr (kvs.filter p) = true :=
  allKV_of_subset kr lr (fun _ hq => (List.mem_filter.mp hq).1) h

theorem allKV_delKey {kvs : List (Key × Tr ι)} (k : Key)
    (h : Tr.allKV kr lr kvs = true) : Tr.allKV kr lr (Tr.delKey k kvs) = true :=
  allKV_of_subset kr lr (fun _ hq => (sublist_delKey k kvs).subset hq) h

theorem allKV_lookup {kvs : List (Key × Tr ι)} {k : Key} {v : Tr ι}
    (h : Tr.allKV kr lr kvs = true) (hl : Tr.lookup k kvs = some v) :
    kr.ok k = true ∧ Tr.all kr lr v = true :=
  (allKV_iff_forall kr lr).mp h _ (mem_of_lookup hl)

theorem allKV_setKey {kvs : List (Key × Tr ι)} {k : Key} {v : Tr ι}
    (h : Tr.allKV kr lr kvs = true) (hk : kr.ok k = true) (hv : Tr.all kr lr v = true) :
    Tr.allKV kr lr (Tr.setKey k v kvs) = true :=
  (allKV_iff_forall kr lr).mpr fun p hp =>
    (mem_setKey hp).elim (fun e => by rw [e]; exact ⟨hk, hv⟩) ((allKV_iff_forall kr lr).mp h p)

theorem allL_of_allKV_values {kvs : List (Key × Tr ι)} (h : Tr.allKV kr lr kvs = true) :
    Tr.allL kr lr (kvs.map (·.2)) = true :=
  (allL_iff kr lr).mpr (List.forall_mem_map.mpr fun p hp => ((allKV_iff_forall kr lr).mp h p hp).2)

end kv

theorem all_kids {kr : KeyReq} {lr : LeafReq} {t : Tr ι} (ht : Tr.all kr lr t = true) :
    ∀ c ∈ t.kids, Tr.all kr lr c = true := by
  cases t with
  | leaf s => exact fun _ h => nomatch h
  | list i xs => exact (allL_iff kr lr).mp ht
  | dict i kvs => exact List.forall_mem_map.mpr fun p hp => ((allKV_iff_forall kr lr).mp ht p hp).2

theorem all_mapKids {kr : KeyReq} {lr : LeafReq} {g : Tr ι → Tr ι} {t : Tr ι} (ht : Tr.all kr lr t = true)
    (hg : ∀ c ∈ t.kids, Tr.all kr lr (g c) = true) : Tr.all kr lr (t.mapKids g) = true := by
  cases t with
  | leaf s => exact ht
  | list i xs => exact (allL_iff kr lr).mpr (List.forall_mem_map.mpr hg)
  | dict i kvs =>
    exact (allKV_iff_forall kr lr).mpr (List.forall_mem_map.mpr fun p hp =>
      ⟨((allKV_iff_forall kr lr).mp ht p hp).1, hg p.2 (List.mem_map_of_mem hp)⟩)

section trees
variable (kr : KeyReq) (lr : LeafReq)

mutual
theorem all_map {ι κ : Type} (f : ι → κ) : ∀ t : Tr ι, Tr.all kr lr (t.map f) = Tr.all kr lr t
  | .leaf _ => rfl
  | .list _ xs => allL_mapL f xs
  | .dict _ kvs => allKV_mapKV f kvs
theorem allL_mapL {ι κ : Type} (f : ι → κ) : ∀ xs : List (Tr ι), Tr.allL kr lr (Tr.mapL f xs) = Tr.allL kr lr xs
  | [] => rfl
  | x :: xs => by simp only [Tr.mapL, Tr.allL, all_map f x, allL_mapL f xs]
theorem allKV_mapKV {ι κ : Type} (f : ι → κ) :
    ∀ kvs : List (Key × Tr ι), Tr.allKV kr lr (Tr.mapKV f kvs) = Tr.allKV kr lr kvs
  | [] => rfl
  | (k, v) :: kvs => by simp only [Tr.mapKV, Tr.allKV, all_map f v, allKV_mapKV f kvs]
end

theorem all_toBase {ι : Type} (t : Tr ι) : Tr.all kr lr t.toBase = Tr.all kr lr t := all_map kr lr _ t

end trees

/-- All validators have one shape: a check on every key (`kc`), a check on every leaf (`lc`), first
error wins; they differ in the two checks and in whether a key is checked before its value or after
it. -/
structure IsValidator (kc : Key → Option Err) (lc : Scalar → Option Err) (v : Tr ι → Option Err)
    (vL : List (Tr ι) → Option Err) (vKV : List (Key × Tr ι) → Option Err) : Prop where
  leaf : ∀ s, v (.leaf s) = lc s
  list : ∀ i xs, v (.list i xs) = vL xs
  dict : ∀ i kvs, v (.dict i kvs) = vKV kvs
  nil : vL [] = none
  cons : ∀ x xs, vL (x :: xs) = orErr (v x) (vL xs)
  nilKV : vKV [] = none
  consKV : ∀ k w kvs, vKV ((k, w) :: kvs) = orErr (kc k) (orErr (v w) (vKV kvs)) ∨
    vKV ((k, w) :: kvs) = orErr (v w) (orErr (kc k) (vKV kvs))

/-- the raised error, if any, is a TypeError / ValueError subclass -/
def ErrTV (x : Option Err) : Prop := ∀ e, x = some e → e.isTypeOrValueError = true

theorem ErrTV.none : ErrTV none := fun _ h => nomatch h
theorem ErrTV.some {e : Err} (h : e.isTypeOrValueError = true) : ErrTV (some e) := by
  intro e' h'; cases h'; exact h
theorem ErrTV.ite {c : Prop} [Decidable c] {a b : Option Err} (ha : ErrTV a) (hb : ErrTV b) :
    ErrTV (if c then a else b) := by split <;> assumption
theorem ErrTV.orErr {a b : Option Err} (ha : ErrTV a) (hb : ErrTV b) : ErrTV (orErr a b) := by
  cases a with
  | none => exact hb
  | some x => exact ha

namespace IsValidator
variable {kc : Key → Option Err} {lc : Scalar → Option Err} {v : Tr ι → Option Err}
  {vL : List (Tr ι) → Option Err} {vKV : List (Key × Tr ι) → Option Err} {kr : KeyReq} {lr : LeafReq}

mutual
theorem none (h : IsValidator kc lc v vL vKV) (hk : ∀ k, kc k = none ↔ kr.ok k = true)
    (hl : ∀ s, lc s = none ↔ lr.ok s = true) : ∀ t, v t = none ↔ all kr lr t = true
  | .leaf s => h.leaf s ▸ hl s
  | .list _ xs => h.list _ xs ▸ noneL h hk hl xs
  | .dict _ kvs => h.dict _ kvs ▸ noneKV h hk hl kvs
theorem noneL (h : IsValidator kc lc v vL vKV) (hk : ∀ k, kc k = none ↔ kr.ok k = true)
    (hl : ∀ s, lc s = none ↔ lr.ok s = true) : ∀ xs, vL xs = none ↔ allL kr lr xs = true
  | [] => by simp [h.nil, allL]
  | x :: xs => by simp [h.cons, orErr_eq_none, none h hk hl x, noneL h hk hl xs, allL]
theorem noneKV (h : IsValidator kc lc v vL vKV) (hk : ∀ k, kc k = none ↔ kr.ok k = true)
    (hl : ∀ s, lc s = none ↔ lr.ok s = true) : ∀ kvs, vKV kvs = none ↔ allKV kr lr kvs = true
  | [] => by simp [h.nilKV, allKV]
  | (k, w) :: kvs => by
    -- key checked first or value first: for "no error at all" the order does not matter
    rcases h.consKV k w kvs with e | e <;>
      simp [e, orErr_eq_none, hk, none h hk hl w, noneKV h hk hl kvs, allKV, and_assoc, and_left_comm]
end

mutual
theorem tv (h : IsValidator kc lc v vL vKV) (hk : ∀ k, ErrTV (kc k)) (hl : ∀ s, ErrTV (lc s)) :
    ∀ t, ErrTV (v t)
  | .leaf s => h.leaf s ▸ hl s
  | .list _ xs => h.list _ xs ▸ tvL h hk hl xs
  | .dict _ kvs => h.dict _ kvs ▸ tvKV h hk hl kvs
theorem tvL (h : IsValidator kc lc v vL vKV) (hk : ∀ k, ErrTV (kc k)) (hl : ∀ s, ErrTV (lc s)) :
    ∀ xs, ErrTV (vL xs)
  | [] => h.nil ▸ ErrTV.none
  | x :: xs => h.cons x xs ▸ (tv h hk hl x).orErr (tvL h hk hl xs)
theorem tvKV (h : IsValidator kc lc v vL vKV) (hk : ∀ k, ErrTV (kc k)) (hl : ∀ s, ErrTV (lc s)) :
    ∀ kvs, ErrTV (vKV kvs)
  | [] => h.nilKV ▸ ErrTV.none
  | (k, w) :: kvs => by
    rcases h.consKV k w kvs with e | e <;> rw [e]
    · exact (hk k).orErr ((tv h hk hl w).orErr (tvKV h hk hl kvs))
    · exact (tv h hk hl w).orErr ((hk k).orErr (tvKV h hk hl kvs))
end

end IsValidator

namespace Validator
def keyReq : Validator → KeyReq
  | .requireStringKey => .str
  | .jsonFormat => .str
  | .noDotInKey => .strNoDot
  | .jsonAttrDict => .strNoDot
  | .unknown _ => .any
def leafReq : Validator → LeafReq
  | .requireStringKey => .any
  | .jsonFormat => .json
  | .noDotInKey => .any
  | .jsonAttrDict => .json
  | .unknown _ => .any

def keyChk : Validator → Key → Option Err
  | .requireStringKey | .jsonFormat => fun k => if k.isStr then none else some .keyTypeError
  | .noDotInKey | .jsonAttrDict => dotKeyCheck
  | .unknown _ => fun _ => none
def leafChk : Validator → Scalar → Option Err
  | .jsonFormat | .jsonAttrDict => fun s => if s.isClean then none else some .typeError
  | _ => fun _ => none

theorem isValidator (v : Validator) : IsValidator v.keyChk v.leafChk (v.run (ι := ι)) v.runL v.runKV := by
  cases v <;> refine ⟨fun _ => rfl, fun _ _ => rfl, fun _ _ => rfl, rfl, fun _ _ => rfl, rfl, fun _ _ _ => ?_⟩
  case jsonAttrDict => exact .inr rfl
  all_goals exact .inl rfl

theorem keyChk_none (v : Validator) (k : Key) : v.keyChk k = none ↔ v.keyReq.ok k = true := by
  cases v <;> cases k <;> simp [keyChk, keyReq, KeyReq.ok, dotKeyCheck, Key.isStr]
theorem leafChk_none (v : Validator) (s : Scalar) : v.leafChk s = none ↔ v.leafReq.ok s = true := by
  cases v <;> simp [leafChk, leafReq, LeafReq.ok]

theorem run_none (v : Validator) (t : Tr ι) : v.run t = none ↔ all v.keyReq v.leafReq t = true :=
  v.isValidator.none v.keyChk_none v.leafChk_none t
theorem runL_none (v : Validator) (t : List (Tr ι)) :
    v.runL t = none ↔ allL v.keyReq v.leafReq t = true :=
  v.isValidator.noneL v.keyChk_none v.leafChk_none t
theorem runKV_none (v : Validator) (t : List (Key × Tr ι)) :
    v.runKV t = none ↔ allKV v.keyReq v.leafReq t = true :=
  v.isValidator.noneKV v.keyChk_none v.leafChk_none t

theorem keyChk_TV (v : Validator) (k : Key) : ErrTV (v.keyChk k) := by
  cases v
  case requireStringKey | jsonFormat => exact .ite .none (.some rfl)
  case noDotInKey | jsonAttrDict =>
    cases k
    · exact .ite (.some rfl) .none
    · exact .some rfl
  case unknown => exact .none
theorem leafChk_TV (v : Validator) (s : Scalar) : ErrTV (v.leafChk s) := by
  cases v
  case jsonFormat | jsonAttrDict => exact .ite .none (.some rfl)
  all_goals exact .none

theorem run_TV (v : Validator) (t : Tr ι) : ErrTV (v.run t) := v.isValidator.tv v.keyChk_TV v.leafChk_TV t
theorem runL_TV (v : Validator) (t : List (Tr ι)) : ErrTV (v.runL t) :=
  v.isValidator.tvL v.keyChk_TV v.leafChk_TV t
theorem runKV_TV (v : Validator) (t : List (Key × Tr ι)) : ErrTV (v.runKV t) :=
  v.isValidator.tvKV v.keyChk_TV v.leafChk_TV t
end Validator

theorem reqStr_none (t : Tr ι) : reqStr t = none ↔ all .str .any t = true :=
  Validator.run_none .requireStringKey t
theorem jsonFmt_none (t : Tr ι) : jsonFmt t = none ↔ all .str .json t = true :=
  Validator.run_none .jsonFormat t
theorem noDot_none (t : Tr ι) : noDot t = none ↔ all .strNoDot .any t = true :=
  Validator.run_none .noDotInKey t
theorem jsonAttr_none (t : Tr ι) : jsonAttr t = none ↔ all .strNoDot .json t = true :=
  Validator.run_none .jsonAttrDict t

namespace Tr
-- no requirement: what the validator that accepts everything accepts
theorem all_any_any (t : Tr ι) : all .any .any t = true := ((Validator.unknown 0).run_none t).mp rfl
theorem allL_any_any (xs : List (Tr ι)) : allL .any .any xs = true := ((Validator.unknown 0).runL_none xs).mp rfl
theorem allKV_any_any (kvs : List (Key × Tr ι)) : allKV .any .any kvs = true :=
  ((Validator.unknown 0).runKV_none kvs).mp rfl
end Tr

def keyReq : List Validator → KeyReq
  | [] => .any
  | v :: vs => v.keyReq.meet (keyReq vs)
def leafReq : List Validator → LeafReq
  | [] => .any
  | v :: vs => v.leafReq.meet (leafReq vs)

theorem validate_none (vs : List Validator) (t : Tr ι) :
    validate vs t = none ↔ all (keyReq vs) (leafReq vs) t = true := by
  induction vs with
  | nil => simp [validate, keyReq, leafReq, all_any_any]
  | cons v vs ih =>
    simp [validate, keyReq, leafReq, orErr_eq_none, Validator.run_none, ih, all_meet]
theorem validateL_none (vs : List Validator) (t : List (Tr ι)) :
    validateL vs t = none ↔ allL (keyReq vs) (leafReq vs) t = true := by
  induction vs with
  | nil => simp [validateL, keyReq, leafReq, allL_any_any]
  | cons v vs ih =>
    simp [validateL, keyReq, leafReq, orErr_eq_none, Validator.runL_none, ih, allL_meet]
theorem validateKV_none (vs : List Validator) (t : List (Key × Tr ι)) :
    validateKV vs t = none ↔ allKV (keyReq vs) (leafReq vs) t = true := by
  induction vs with
  | nil => simp [validateKV, keyReq, leafReq, allKV_any_any]
  | cons v vs ih =>
    simp [validateKV, keyReq, leafReq, orErr_eq_none, Validator.runKV_none, ih, allKV_meet]

/-- the `{key: value}` form that `__setitem__`, `setdefault`, `update` and the merge validate -/
theorem validateKV_single (vs : List Validator) (k : Key) (v : Tr ι) :
    validateKV vs [(k, v)] = none ↔ (keyReq vs).ok k = true ∧ all (keyReq vs) (leafReq vs) v = true := by
  rw [validateKV_none]; simp [allKV]

/-- A validator list *implements* the specification "clean (with / without the dot
rule)": decidable; such a list accepts exactly the clean values (`validate_iff_clean`). -/
def implementsClean (nodot : Bool) (vs : List Validator) : Bool :=
  decide (keyReq vs = cleanKeyReq nodot) && decide (leafReq vs = .json)

/-- soundness and completeness of validation, for every value of any depth and width -/
theorem validate_iff_clean {nodot : Bool} {vs : List Validator} (h : implementsClean nodot vs = true)
    (t : Tr ι) : validate vs t = none ↔ clean nodot t = true := by
  simp [implementsClean] at h
  rw [validate_none, clean_eq_all, h.1, h.2]
theorem validateL_iff_clean {nodot : Bool} {vs : List Validator} (h : implementsClean nodot vs = true)
    (t : List (Tr ι)) : validateL vs t = none ↔ cleanL nodot t = true := by
  simp [implementsClean] at h
  rw [validateL_none, cleanL_eq_allL, h.1, h.2]
theorem validateKV_iff_clean {nodot : Bool} {vs : List Validator} (h : implementsClean nodot vs = true)
    (t : List (Key × Tr ι)) : validateKV vs t = none ↔ cleanKV nodot t = true := by
  simp [implementsClean] at h
  rw [validateKV_none, cleanKV_eq_allKV, h.1, h.2]

theorem validate_TV (vs : List Validator) (t : Tr ι) : ErrTV (validate vs t) := by
  induction vs with
  | nil => exact ErrTV.none
  | cons v vs ih => simp only [validate]; exact (v.run_TV t).orErr ih
theorem validateL_TV (vs : List Validator) (t : List (Tr ι)) : ErrTV (validateL vs t) := by
  induction vs with
  | nil => exact ErrTV.none
  | cons v vs ih => simp only [validateL]; exact (v.runL_TV t).orErr ih
theorem validateKV_TV (vs : List Validator) (t : List (Key × Tr ι)) : ErrTV (validateKV vs t) := by
  induction vs with
  | nil => exact ErrTV.none
  | cons v vs ih => simp only [validateKV]; exact (v.runKV_TV t).orErr ih

/-- data every part of which passes the family's validators (both the dict-side and the
list-side ones: nested positions are validated by the container they land in) -/
def Valid (fam : Fam) (d : Tr ι) : Prop :=
  all (keyReq fam.dictV) (leafReq fam.dictV) d = true ∧ all (keyReq fam.listV) (leafReq fam.listV) d = true

def ValidL (fam : Fam) (ds : List (Tr ι)) : Prop :=
  allL (keyReq fam.dictV) (leafReq fam.dictV) ds = true ∧ allL (keyReq fam.listV) (leafReq fam.listV) ds = true

def ValidKV (fam : Fam) (kvs : List (Key × Tr ι)) : Prop :=
  allKV (keyReq fam.dictV) (leafReq fam.dictV) kvs = true ∧ allKV (keyReq fam.listV) (leafReq fam.listV) kvs = true

theorem Valid.list {fam : Fam} {i : ι} {xs : List (Tr ι)} (h : Valid fam (.list i xs)) : ValidL fam xs := h
theorem Valid.dict {fam : Fam} {i : ι} {kvs : List (Key × Tr ι)} (h : Valid fam (.dict i kvs)) : ValidKV fam kvs := h

theorem ValidL.cons {fam : Fam} {x : Tr ι} {xs : List (Tr ι)} (h : ValidL fam (x :: xs)) :
    Valid fam x ∧ ValidL fam xs := by
  simp only [ValidL, allL, Bool.and_eq_true] at h
  exact ⟨⟨h.1.1, h.2.1⟩, ⟨h.1.2, h.2.2⟩⟩

theorem ValidKV.cons {fam : Fam} {k : Key} {v : Tr ι} {kvs : List (Key × Tr ι)} (h : ValidKV fam ((k, v) :: kvs)) :
    validateKV fam.dictV [(k, v)] = none ∧ Valid fam v ∧ ValidKV fam kvs := by
  simp only [ValidKV, allKV, Bool.and_eq_true] at h
  exact ⟨(validateKV_single _ k v).mpr h.1.1, ⟨h.1.1.2, h.2.1.2⟩, ⟨h.1.2, h.2.2⟩⟩

theorem Valid.validate_list {fam : Fam} {d : Tr ι} (h : Valid fam d) : validate fam.listV d = none := by
  rw [validate_none]; exact h.2

theorem ValidL.validateL {fam : Fam} {ds : List (Tr ι)} (h : ValidL fam ds) : validateL fam.listV ds = none := by
  rw [validateL_none]; exact h.2

theorem ValidKV.lookup {fam : Fam} : ∀ {kvs : List (Key × Tr ι)} {k : Key} {v : Tr ι},
    ValidKV fam kvs → Tr.lookup k kvs = some v → Valid fam v :=
  fun hv h => ⟨(allKV_lookup _ _ hv.1 h).2, (allKV_lookup _ _ hv.2 h).2⟩

end SC
