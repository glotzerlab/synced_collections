/-
The model defines its functions on lists of trees and on lists of bindings by mutual recursion
(`mapL`, `idsL`, `findL`, `replaceL`, `wfL`, … and their `KV` twins).  Here they are expressed by
`List.map`, `flatMap`, `findSome?`, so that a fact about trees needs one induction and its list and
binding versions follow from `List` lemmas.  Then: relabelling (`Tr.map`, `toBase`), unique keys in
lists of bindings, and `Tr.kids` (the children of a node, whatever its kind) with induction over it
(`Tr.kidsInd`) for the facts that do not depend on the kind of the node.  `kids` serves what stays
within one type `Tr ι`; relabelling (`Tr.map`) changes the type, so its facts keep the mutual induction.
-/
import SC.Tree
import SC.Lemmas.Assoc
namespace SC
open Tr

variable {ι κ : Type}

theorem mapL_eq_map (f : ι → κ) (xs : List (Tr ι)) : Tr.mapL f xs = xs.map (Tr.map f) := by
  induction xs with
  | nil => rfl
  | cons x xs ih => simp [Tr.mapL, ih]

theorem mapKV_eq_map (f : ι → κ) (kvs : List (Key × Tr ι)) :
    Tr.mapKV f kvs = kvs.map (fun kv => (kv.1, Tr.map f kv.2)) := by
  induction kvs with
  | nil => rfl
  | cons p kvs ih => simp [Tr.mapKV, ih]

theorem idsL_eq (xs : List T) : Tr.idsL xs = xs.flatMap Tr.ids := by
  induction xs with
  | nil => rfl
  | cons x xs ih => simp [Tr.idsL, ih]

theorem idsKV_eq (kvs : List (Key × T)) : Tr.idsKV kvs = kvs.flatMap (fun kv => Tr.ids kv.2) := by
  induction kvs with
  | nil => rfl
  | cons p kvs ih => simp [Tr.idsKV, ih]

theorem findL_eq (h : Nat) (xs : List T) : Tr.findL h xs = xs.findSome? (Tr.find h) := by
  induction xs with
  | nil => rfl
  | cons x xs ih => cases hx : Tr.find h x <;> simp [Tr.findL, hx, ih]

theorem findKV_eq (h : Nat) (kvs : List (Key × T)) :
    Tr.findKV h kvs = kvs.findSome? (fun kv => Tr.find h kv.2) := by
  induction kvs with
  | nil => rfl
  | cons p kvs ih => cases hx : Tr.find h p.2 <;> simp [Tr.findKV, hx, ih]

theorem replaceL_eq (h : Nat) (new : T) (xs : List T) :
    Tr.replaceL h new xs = xs.map (Tr.replace h new) := by
  induction xs with
  | nil => rfl
  | cons x xs ih => simp [Tr.replaceL, ih]

theorem replaceKV_eq (h : Nat) (new : T) (kvs : List (Key × T)) :
    Tr.replaceKV h new kvs = kvs.map (fun kv => (kv.1, Tr.replace h new kv.2)) := by
  induction kvs with
  | nil => rfl
  | cons p kvs ih => simp [Tr.replaceKV, ih]

theorem map_eq_self {α : Type} {g : α → α} {l : List α} (h : ∀ x ∈ l, g x = x) : l.map g = l :=
  (List.map_congr_left h).trans (List.map_id _)

theorem mapSnd_eq_self {α : Type} {g : α → α} {l : List (Key × α)} (h : ∀ kv ∈ l, g kv.2 = kv.2) :
    l.map (fun kv => (kv.1, g kv.2)) = l :=
  map_eq_self fun kv hkv => by rw [h kv hkv]

theorem flatMap_sublist {α β : Type} (f : α → List β) {a b : List α} (s : a.Sublist b) :
    (a.flatMap f).Sublist (b.flatMap f) := by
  induction s with
  | slnil => exact .slnil
  | cons x _ ih => exact ih.trans (List.sublist_append_right _ _)
  | cons_cons x _ ih => exact (List.Sublist.refl _).append ih

theorem flatMap_sublist_of_mem {α β : Type} (f : α → List β) {a : α} {l : List α} (h : a ∈ l) :
    (f a).Sublist (l.flatMap f) := by
  rw [List.flatMap_def]; exact List.sublist_flatten_of_mem (List.mem_map_of_mem h)

theorem idsKV_sublist {a b : List (Key × T)} (s : a.Sublist b) : (Tr.idsKV a).Sublist (Tr.idsKV b) := by
  rw [idsKV_eq, idsKV_eq]; exact flatMap_sublist _ s

theorem idsKV_delKey_sub (k : Key) : ∀ (kvs : List (Key × T)) (i : Nat),
    i ∈ Tr.idsKV (Tr.delKey k kvs) → i ∈ Tr.idsKV kvs :=
  fun kvs _ h => (idsKV_sublist (sublist_delKey k kvs)).subset h

theorem wfL_iff {xs : List (Tr ι)} : Tr.wfL xs = true ↔ ∀ x ∈ xs, x.wf = true := by
  induction xs with
  | nil => simp [Tr.wfL]
  | cons x xs ih => simp only [Tr.wfL, Bool.and_eq_true, ih, List.forall_mem_cons]

theorem lookup_mapKV (f : ι → κ) (k : Key) (kvs : List (Key × Tr ι)) :
    Tr.lookup k (Tr.mapKV f kvs) = (Tr.lookup k kvs).map (Tr.map f) := by
  rw [mapKV_eq_map, lookup_map]

theorem hasKey_mapKV (f : ι → κ) (k : Key) (kvs : List (Key × Tr ι)) :
    Tr.hasKey k (Tr.mapKV f kvs) = Tr.hasKey k kvs := by
  rw [mapKV_eq_map, hasKey_map]

theorem setKey_mapKV (f : ι → κ) (k : Key) (v : Tr ι) (kvs : List (Key × Tr ι)) :
    Tr.setKey k (v.map f) (Tr.mapKV f kvs) = Tr.mapKV f (Tr.setKey k v kvs) := by
  rw [mapKV_eq_map, mapKV_eq_map, setKey_map]

theorem delKey_mapKV (f : ι → κ) (k : Key) (kvs : List (Key × Tr ι)) :
    Tr.delKey k (Tr.mapKV f kvs) = Tr.mapKV f (Tr.delKey k kvs) := by
  rw [mapKV_eq_map, mapKV_eq_map, delKey_map]

section
variable (f : ι → κ)

theorem length_mapKV (kvs : List (Key × Tr ι)) : (Tr.mapKV f kvs).length = kvs.length := by
  simp [mapKV_eq_map]
theorem length_mapL (xs : List (Tr ι)) : (Tr.mapL f xs).length = xs.length := by
  simp [mapL_eq_map]

mutual
theorem map_map {μ : Type} (g : κ → μ) : ∀ t : Tr ι, (t.map f).map g = t.map (g ∘ f)
  | .leaf _ => rfl
  | .list _ xs => congrArg (Tr.list _) (mapL_mapL g xs)
  | .dict _ kvs => congrArg (Tr.dict _) (mapKV_mapKV g kvs)
theorem mapL_mapL {μ : Type} (g : κ → μ) :
    ∀ xs : List (Tr ι), Tr.mapL g (Tr.mapL f xs) = Tr.mapL (g ∘ f) xs
  | [] => rfl
  | x :: xs => congr (congrArg List.cons (map_map g x)) (mapL_mapL g xs)
theorem mapKV_mapKV {μ : Type} (g : κ → μ) :
    ∀ kvs : List (Key × Tr ι), Tr.mapKV g (Tr.mapKV f kvs) = Tr.mapKV (g ∘ f) kvs
  | [] => rfl
  | (k, v) :: kvs => congr (congrArg (fun a => List.cons (k, a)) (map_map g v)) (mapKV_mapKV g kvs)
end

mutual
theorem map_unit_id : ∀ t : J, t.map (fun _ => ()) = t
  | .leaf s => by simp [Tr.map]
  | .list i xs => by simp [Tr.map, mapL_unit_id xs]
  | .dict i kvs => by simp [Tr.map, mapKV_unit_id kvs]
theorem mapL_unit_id : ∀ xs : List J, Tr.mapL (fun _ => ()) xs = xs
  | [] => rfl
  | x :: xs => by simp [Tr.mapL, map_unit_id x, mapL_unit_id xs]
theorem mapKV_unit_id : ∀ kvs : List (Key × J), Tr.mapKV (fun _ => ()) kvs = kvs
  | [] => rfl
  | (k, v) :: kvs => by simp [Tr.mapKV, map_unit_id v, mapKV_unit_id kvs]
end

theorem toBase_J (t : J) : t.toBase = t := map_unit_id t

theorem toBase_map (t : Tr ι) : (t.map f).toBase = t.toBase := by
  simp only [Tr.toBase, map_map]

end

@[simp] theorem toBase_leaf (s : Scalar) : (Tr.leaf s : Tr ι).toBase = .leaf s := by
  simp [Tr.toBase, Tr.map]
theorem toBase_list (i : ι) (xs : List (Tr ι)) :
    (Tr.list i xs).toBase = .list () (Tr.mapL (fun _ => ()) xs) := by
  simp [Tr.toBase, Tr.map]
theorem toBase_dict (i : ι) (kvs : List (Key × Tr ι)) :
    (Tr.dict i kvs).toBase = .dict () (Tr.mapKV (fun _ => ()) kvs) := by
  simp [Tr.toBase, Tr.map]

theorem wfKV_cons {k : Key} {v : Tr ι} {kvs : List (Key × Tr ι)} :
    Tr.wfKV ((k, v) :: kvs) = true ↔ Tr.hasKey k kvs = false ∧ v.wf = true ∧ Tr.wfKV kvs = true := by
  simp [Tr.wfKV, and_assoc]

theorem wf_values_of_wfKV {kvs : List (Key × Tr ι)} (h : Tr.wfKV kvs = true) : ∀ kv ∈ kvs, kv.2.wf = true := by
  induction kvs with
  | nil => simp
  | cons p ps ih =>
    obtain ⟨k, v⟩ := p
    rw [wfKV_cons] at h
    exact List.forall_mem_cons.mpr ⟨h.2.1, ih h.2.2⟩

theorem wf_of_lookup {kvs : List (Key × Tr ι)} {k : Key} {v : Tr ι} (hc : Tr.wfKV kvs = true)
    (hl : Tr.lookup k kvs = some v) : v.wf = true :=
  wf_values_of_wfKV hc _ (mem_of_lookup hl)

theorem wfKV_sublist {a b : List (Key × Tr ι)} (s : a.Sublist b) (h : Tr.wfKV b = true) :
    Tr.wfKV a = true := by
  induction s with
  | slnil => exact h
  | cons x _ ih => exact ih (wfKV_cons.mp h).2.2
  | cons_cons x s ih =>
    rw [wfKV_cons] at h ⊢
    exact ⟨hasKey_of_sublist _ s h.1, h.2.1, ih h.2.2⟩

theorem wfKV_filter (cur : List (Key × Tr ι)) (p : Key × Tr ι → Bool) (hc : Tr.wfKV cur = true) :
    Tr.wfKV (cur.filter p) = true :=
  wfKV_sublist List.filter_sublist hc

theorem wfKV_delKey (k : Key) (kvs : List (Key × Tr ι)) (h : Tr.wfKV kvs = true) :
    Tr.wfKV (Tr.delKey k kvs) = true :=
  wfKV_sublist (sublist_delKey k kvs) h

theorem wfKV_setKey (cur : List (Key × Tr ι)) (k : Key) (x : Tr ι) (hc : Tr.wfKV cur = true)
    (hx : x.wf = true) : Tr.wfKV (Tr.setKey k x cur) = true := by
  induction cur with
  | nil => simp [Tr.setKey, Tr.wfKV, hx, Tr.hasKey, Tr.lookup]
  | cons q qs ih =>
    obtain ⟨k', v'⟩ := q
    rw [wfKV_cons] at hc
    simp only [Tr.setKey]
    split
    · next hkk => subst hkk; exact wfKV_cons.mpr ⟨hc.1, hx, hc.2.2⟩
    · next hkk => exact wfKV_cons.mpr ⟨by simp [hasKey_setKey, hc.1, hkk], hc.2.1, ih hc.2.2⟩

theorem foldl_setKey_wf (l acc : List (Key × Tr ι)) (h : Tr.wfKV acc = true) (hl : ∀ kv ∈ l, kv.2.wf = true) :
    Tr.wfKV (l.foldl (fun acc kv => Tr.setKey kv.1 kv.2 acc) acc) = true :=
  List.foldlRecOn l _ (motive := fun acc => Tr.wfKV acc = true) h
    fun acc hacc kv hkv => wfKV_setKey acc kv.1 kv.2 hacc (hl kv hkv)

theorem wfKV_append_of_disjoint (a b : List (Key × Tr ι)) (ha : Tr.wfKV a = true) (hb : Tr.wfKV b = true)
    (hd : ∀ kv ∈ a, Tr.hasKey kv.1 b = false) : Tr.wfKV (a ++ b) = true := by
  induction a with
  | nil => exact hb
  | cons p ps ih =>
    obtain ⟨k, v⟩ := p
    rw [wfKV_cons] at ha
    have hd' := List.forall_mem_cons.mp hd
    rw [List.cons_append, wfKV_cons, hasKey_append, ha.1, hd'.1]
    exact ⟨rfl, ha.2.1, ih ha.2.2 hd'.2⟩

theorem wfKV_append (cur : List (Key × Tr ι)) (k : Key) (x : Tr ι) (hc : Tr.wfKV cur = true)
    (hk : Tr.hasKey k cur = false) (hx : x.wf = true) : Tr.wfKV (cur ++ [(k, x)]) = true := by
  refine wfKV_append_of_disjoint cur [(k, x)] hc (by simp [Tr.wfKV, hx, Tr.hasKey, Tr.lookup]) fun kv hkv => ?_
  have hne : k ≠ kv.1 := fun e => by rw [e, hasKey_of_mem hkv] at hk; cases hk
  simp [hne, Tr.hasKey, Tr.lookup]

theorem lookup_of_mem {kvs : List (Key × Tr ι)} (hc : Tr.wfKV kvs = true) :
    ∀ kv ∈ kvs, Tr.lookup kv.1 kvs = some kv.2 := by
  induction kvs with
  | nil => simp
  | cons q qs ih =>
    obtain ⟨k', v'⟩ := q
    rw [wfKV_cons] at hc
    intro kv hkv
    rcases List.mem_cons.mp hkv with rfl | hm
    · simp [Tr.lookup]
    · have hne : k' ≠ kv.1 := fun e => by
        rw [e, (hasKey_iff_lookup _ _).mpr ⟨_, ih hc.2.2 kv hm⟩] at hc; simp at hc
      simp only [Tr.lookup, hne, if_false]; exact ih hc.2.2 kv hm

mutual
theorem wf_map {κ : Type} (f : ι → κ) : ∀ (t : Tr ι), (t.map f).wf = t.wf
  | .leaf _ => rfl
  | .list _ xs => wfL_map f xs
  | .dict _ kvs => wfKV_map f kvs
theorem wfL_map {κ : Type} (f : ι → κ) : ∀ (xs : List (Tr ι)), Tr.wfL (Tr.mapL f xs) = Tr.wfL xs
  | [] => rfl
  | x :: xs => by simp only [Tr.mapL, Tr.wfL, wf_map f x, wfL_map f xs]
theorem wfKV_map {κ : Type} (f : ι → κ) : ∀ (kvs : List (Key × Tr ι)), Tr.wfKV (Tr.mapKV f kvs) = Tr.wfKV kvs
  | [] => rfl
  | (k, v) :: kvs => by simp only [Tr.mapKV, Tr.wfKV, hasKey_mapKV, wf_map f v, wfKV_map f kvs]
end

/-- the children of a node, whatever its kind (a leaf has none) -/
def Tr.kids : Tr ι → List (Tr ι)
  | .leaf _ => []
  | .list _ xs => xs
  | .dict _ kvs => kvs.map (·.2)

mutual
/-- induction over `Tr.kids`: one proof for leaf, list and dict, with no `L` / `KV` twins -/
theorem Tr.kidsInd {motive : Tr ι → Prop} (node : ∀ t, (∀ c ∈ t.kids, motive c) → motive t) :
    ∀ t, motive t
  | .leaf _ => node _ (fun _ h => nomatch h)
  | .list _ xs => node _ (Tr.kidsIndL node xs)
  | .dict _ kvs => node _ (Tr.kidsIndKV node kvs)
theorem Tr.kidsIndL {motive : Tr ι → Prop} (node : ∀ t, (∀ c ∈ t.kids, motive c) → motive t) :
    ∀ xs : List (Tr ι), ∀ c ∈ xs, motive c
  | [] => fun _ h => nomatch h
  | x :: xs => List.forall_mem_cons.mpr ⟨Tr.kidsInd node x, Tr.kidsIndL node xs⟩
theorem Tr.kidsIndKV {motive : Tr ι → Prop} (node : ∀ t, (∀ c ∈ t.kids, motive c) → motive t) :
    ∀ kvs : List (Key × Tr ι), ∀ c ∈ kvs.map (·.2), motive c
  | [] => fun _ h => nomatch h
  | (_, v) :: kvs => List.forall_mem_cons.mpr ⟨Tr.kidsInd node v, Tr.kidsIndKV node kvs⟩
end

/-- `g` applied to every child; the node itself (kind, identity, keys) stays -/
def Tr.mapKids (g : Tr ι → Tr ι) : Tr ι → Tr ι
  | .leaf s => .leaf s
  | .list i xs => .list i (xs.map g)
  | .dict i kvs => .dict i (kvs.map fun kv => (kv.1, g kv.2))

theorem kids_mapKids (g : Tr ι → Tr ι) (t : Tr ι) : (t.mapKids g).kids = t.kids.map g := by
  cases t <;> simp [Tr.mapKids, Tr.kids]

theorem id?_mapKids (g : T → T) (t : T) : (t.mapKids g).id? = t.id? := by
  cases t <;> rfl

theorem mapKids_id {g : Tr ι → Tr ι} {t : Tr ι} (hg : ∀ c ∈ t.kids, g c = c) : t.mapKids g = t := by
  cases t with
  | leaf s => rfl
  | list i xs => exact congrArg (Tr.list i) (map_eq_self hg)
  | dict i kvs => exact congrArg (Tr.dict i) (mapSnd_eq_self fun kv hkv => hg kv.2 (List.mem_map_of_mem hkv))

theorem wf_kids {t : Tr ι} (ht : t.wf = true) : ∀ c ∈ t.kids, c.wf = true := by
  cases t with
  | leaf s => exact fun _ h => nomatch h
  | list i xs => exact wfL_iff.mp ht
  | dict i kvs => exact List.forall_mem_map.mpr (wf_values_of_wfKV ht)

theorem wf_mapKids {g : Tr ι → Tr ι} {t : Tr ι} (ht : t.wf = true) (hg : ∀ c ∈ t.kids, (g c).wf = true) :
    (t.mapKids g).wf = true := by
  cases t with
  | leaf s => rfl
  | list i xs => exact wfL_iff.mpr (List.forall_mem_map.mpr hg)
  | dict i kvs =>
    induction kvs with
    | nil => rfl
    | cons p ps ih =>
      have hg' := List.forall_mem_cons.mp hg
      have ht' := wfKV_cons.mp ht
      exact wfKV_cons.mpr ⟨by rw [hasKey_map]; exact ht'.1, hg'.1, ih ht'.2.2 hg'.2⟩

end SC
