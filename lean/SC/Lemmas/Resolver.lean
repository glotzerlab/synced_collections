/-
L5 — the resolver's cache cannot be observed (C19).  If the predicates look only at the type of a
value whose type may be cached (`TypeDetermined`) and every cached answer is the classification of
every value of its type (`CacheOK`), one call answers as the cache-free classification and keeps
both; hence so does every history of calls.
-/
import SC.Resolver
namespace SC.Resolver

/-- the predicates give the same answer for all values of a type, for every type that can be
cached (is not blocked) -/
def TypeDetermined (r : Res) : Prop :=
  ∀ o1 o2 : Obj, o1.ty = o2.ty → blocked r o1 = false → classify r.preds o1 = classify r.preds o2

/-- every cached entry is what classification gives for every value of that type -/
def CacheOK (r : Res) : Prop :=
  ∀ ty c, lookup ty r.cache = some c → ∀ o : Obj, o.ty = ty → classify r.preds o = c

theorem lookup_cons (ty ty' : Nat) (c : Option Nat) (cache : List (Nat × Option Nat)) :
    lookup ty ((ty', c) :: cache) = if ty' = ty then some c else lookup ty cache := by
  simp only [lookup, List.find?_cons]
  by_cases h : ty' = ty <;> simp [h]

theorem getType_static (r : Res) (o : Obj) :
    (getType r o).1.preds = r.preds ∧ (getType r o).1.blocklist = r.blocklist ∧ (getType r o).1.mode = r.mode := by
  unfold getType
  split
  · exact ⟨rfl, rfl, rfl⟩
  · simp only; split <;> exact ⟨rfl, rfl, rfl⟩

theorem getType_correct (r : Res) (o : Obj) (htd : TypeDetermined r) (hc : CacheOK r) :
    (getType r o).2 = classify r.preds o ∧ CacheOK (getType r o).1 ∧ TypeDetermined (getType r o).1 := by
  unfold getType
  cases hl : lookup o.ty r.cache with
  | some c => exact ⟨(hc o.ty c hl o rfl).symm, hc, htd⟩
  | none =>
    cases hb : blocked r o with
    | true => exact ⟨rfl, hc, htd⟩
    | false =>
      -- neither `blocked` nor the predicates see the cache; the new entry is right for the whole type by `htd`
      refine ⟨rfl, fun ty c (hlk : lookup ty ((o.ty, classify r.preds o) :: r.cache) = some c) o' ho' => ?_, htd⟩
      rw [lookup_cons] at hlk
      split at hlk
      · next hty => cases hlk; exact (htd o o' (hty.trans ho'.symm) hb).symm
      · exact hc ty c hlk o' ho'

/-- HISTORY INDEPENDENCE: after ANY history of calls, every answer is the cache-free
classification of that value -/
theorem runHistory_correct (os : List Obj) :
    ∀ (r : Res), TypeDetermined r → CacheOK r →
      (runHistory r os).2 = os.map (classify r.preds) ∧ CacheOK (runHistory r os).1 ∧
      TypeDetermined (runHistory r os).1 ∧ (runHistory r os).1.preds = r.preds := by
  induction os with
  | nil => intro r htd hc; exact ⟨rfl, hc, htd, rfl⟩
  | cons o rest ih =>
    intro r htd hc
    have h1 := getType_correct r o htd hc
    have hs := getType_static r o
    have h2 := ih (getType r o).1 h1.2.2 h1.2.1
    simp only [runHistory, List.map_cons]
    refine ⟨?_, h2.2.1, h2.2.2.1, h2.2.2.2.trans hs.1⟩
    rw [h1.1, h2.1, hs.1]

theorem find?_congr {α : Type} {p q : α → Bool} {l : List α} (h : ∀ x ∈ l, p x = q x) :
    l.find? p = l.find? q := by
  rw [← List.head?_filter, ← List.head?_filter, List.filter_congr h]

end SC.Resolver
