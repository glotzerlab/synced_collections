/-
C15 — the size-accounting invariant of the buffer machine.
`size = Σ weight(entry)` with weight = encoded length (serialized) or 1 per modified
entry (shared memory), and entry keys are unique.
-/
import SC.Lemmas.BufRel
namespace SC.B
open SC

def measure (st : Buffering) (fl : List ((Int × Nat) × Nat)) : List (Nat × Entry) → Nat
  | [] => 0
  | p :: ps => weight st fl p.2 + measure st fl ps

def KeysNodup (es : List (Nat × Entry)) : Prop := (es.map (·.1)).Nodup

/-- the invariant: the reported size is exactly the sum of the weights of the buffered files -/
def SizeOK (s : State) : Prop :=
  KeysNodup s.entries ∧ s.size = measure s.strategy s.flen s.entries

variable (st : Buffering) (fl : List ((Int × Nat) × Nat))

theorem measure_append (a b : List (Nat × Entry)) :
    measure st fl (a ++ b) = measure st fl a + measure st fl b := by
  induction a with
  | nil => simp [measure]
  | cons p ps ih => simp [measure, ih, Nat.add_assoc]

theorem measure_zero {es : List (Nat × Entry)} (h : ∀ p ∈ es, weight st fl p.2 = 0) : measure st fl es = 0 := by
  induction es with
  | nil => rfl
  | cons p ps ih =>
    rw [measure, h p List.mem_cons_self, ih fun q hq => h q (List.mem_cons_of_mem _ hq)]

theorem find_none_of_not_mem {es : List (Nat × Entry)} {r : Nat}
    (h : r ∉ es.map (·.1)) : es.find? (·.1 = r) = none :=
  List.find?_eq_none.mpr fun p hp hpr => h (List.mem_map.mpr ⟨p, hp, by simpa using hpr⟩)

theorem split_entry {es : List (Nat × Entry)} {r : Nat} {e : Entry} (hn : KeysNodup es)
    (hf : (es.find? (·.1 = r)).map (·.2) = some e) :
    ∃ l1 l2, es = l1 ++ (r, e) :: l2 ∧ ∀ p ∈ l1 ++ l2, p.1 ≠ r := by
  obtain ⟨⟨r', e'⟩, hfind, rfl⟩ := Option.map_eq_some_iff.mp hf
  obtain ⟨hp, l1, l2, rfl, h1⟩ := List.find?_eq_some_iff_append.mp hfind
  simp only [decide_eq_true_eq] at hp
  subst hp
  refine ⟨l1, l2, rfl, fun p hp => ?_⟩
  rcases List.mem_append.mp hp with h | h
  · simpa using h1 p h
  · simp only [KeysNodup, List.map_append, List.map_cons, List.nodup_append, List.nodup_cons] at hn
    exact fun hpr => hn.2.1.1 (List.mem_map.mpr ⟨p, h, hpr⟩)

theorem filter_absent {l : List (Nat × Entry)} {r : Nat} (h : ∀ p ∈ l, p.1 ≠ r) :
    l.filter (·.1 ≠ r) = l :=
  List.filter_eq_self.mpr fun p hp => decide_eq_true (h p hp)

theorem replace_absent {l : List (Nat × Entry)} {r : Nat} (e' : Entry) (h : ∀ p ∈ l, p.1 ≠ r) :
    l.map (fun p => if p.1 = r then (r, e') else p) = l := by
  rw [List.map_congr_left (g := id) fun p hp => by simp [h p hp], List.map_id]

variable {l1 l2 : List (Nat × Entry)} {r : Nat} (h : ∀ p ∈ l1 ++ l2, p.1 ≠ r)
include h

theorem filter_split (e : Entry) : (l1 ++ (r, e) :: l2).filter (·.1 ≠ r) = l1 ++ l2 := by
  simp only [List.forall_mem_append] at h
  rw [List.filter_append, List.filter_cons_of_neg (by simp), filter_absent h.1, filter_absent h.2]

theorem replace_split (e e' : Entry) :
    (l1 ++ (r, e) :: l2).map (fun p => if p.1 = r then (r, e') else p) = l1 ++ (r, e') :: l2 := by
  simp only [List.forall_mem_append] at h
  rw [List.map_append, List.map_cons, replace_absent e' h.1, replace_absent e' h.2, if_pos rfl]

omit h

/-- the entry of file `r`, if any, between entries of other files -/
def around (l1 l2 : List (Nat × Entry)) (r : Nat) (x : Option Entry) : List (Nat × Entry) :=
  l1 ++ (x.map (r, ·)).toList ++ l2

theorem measure_around (x : Option Entry) :
    measure st fl (around l1 l2 r x) = measure st fl l1 + weight? st fl x + measure st fl l2 := by
  cases x <;> simp [around, weight?, measure_append, measure, Nat.add_assoc]

include h in
theorem keysNodup_around (x : Option Entry) : KeysNodup (around l1 l2 r x) ↔ KeysNodup (l1 ++ l2) := by
  cases x with
  | none => simp [around]
  | some e =>
    have hr : r ∉ (l1 ++ l2).map (·.1) := fun hm => by
      obtain ⟨p, hp, hpr⟩ := List.mem_map.mp hm
      exact h p hp hpr
    simp only [KeysNodup, around, Option.map_some, Option.toList_some, List.append_assoc, List.singleton_append,
      List.map_append, List.map_cons]
    -- the key `r` in the middle: move it to the front, where it only has to be new
    rw [List.perm_middle.nodup_iff, List.nodup_cons, ← List.map_append]
    exact and_iff_right hr

theorem setEntry_present {s : State} {r : Nat} {e0 : Entry} (e : Entry) (h : s.entry r = some e0) :
    (s.setEntry r e).entries = s.entries.map (fun p => if p.1 = r then (r, e) else p) :=
  if_pos (List.any_eq_true.mpr ⟨(r, e0), entry_mem h, decide_eq_true rfl⟩)

theorem setEntry_absent {s : State} {r : Nat} (e : Entry) (h : s.entry r = none) :
    (s.setEntry r e).entries = s.entries ++ [(r, e)] :=
  if_neg fun hany =>
    let ⟨p, hp, hpr⟩ := List.any_eq_true.mp hany
    entry_eq_none.mp h p hp (of_decide_eq_true hpr)

/-- with unique keys the entries lie around the entry of file `r`, and `setBuf` changes just that one -/
theorem entries_around {s : State} (r : Nat) (hn : KeysNodup s.entries) :
    ∃ l1 l2, (∀ p ∈ l1 ++ l2, p.1 ≠ r) ∧ s.entries = around l1 l2 r (s.entry r) ∧
      ∀ new n, (setBuf s r new n).entries = around l1 l2 r new := by
  cases he : s.entry r with
  | some e0 =>
    obtain ⟨l1, l2, hes, habs⟩ := split_entry hn he
    refine ⟨l1, l2, habs, by rw [hes]; simp [around], fun new n => ?_⟩
    cases new with
    | none =>
      show s.entries.filter (·.1 ≠ r) = l1 ++ [] ++ l2
      rw [hes, filter_split habs, List.append_nil]
    | some e =>
      show (s.setEntry r e).entries = l1 ++ [(r, e)] ++ l2
      rw [setEntry_present e he, hes, replace_split habs, List.append_assoc]; rfl
  | none =>
    have habs := entry_eq_none.mp he
    refine ⟨s.entries, [], by rw [List.append_nil]; exact habs, by simp [around], fun new n => ?_⟩
    cases new with
    | none =>
      show s.entries.filter (·.1 ≠ r) = s.entries ++ [] ++ []
      rw [filter_absent habs, List.append_nil, List.append_nil]
    | some e =>
      show (s.setEntry r e).entries = s.entries ++ [(r, e)] ++ []
      rw [setEntry_absent e he, List.append_nil]

/-- `s'` keeps the static parameters of `s` and the size invariant -/
def Keeps (s s' : State) : Prop :=
  s'.strategy = s.strategy ∧ s'.flen = s.flen ∧ (SizeOK s → SizeOK s')

theorem Keeps.strategy {s s' : State} (h : Keeps s s') : s'.strategy = s.strategy := h.1
theorem Keeps.flen {s s' : State} (h : Keeps s s') : s'.flen = s.flen := h.2.1
theorem Keeps.sizeOK {s s' : State} (h : Keeps s s') : SizeOK s → SizeOK s' := h.2.2

theorem Keeps.refl (s : State) : Keeps s s := ⟨rfl, rfl, id⟩
theorem Keeps.trans {a b c : State} (h1 : Keeps a b) (h2 : Keeps b c) : Keeps a c :=
  ⟨h2.strategy.trans h1.strategy, h2.flen.trans h1.flen, fun h => h2.sizeOK (h1.sizeOK h)⟩

theorem SameBook.sizeOK {s s' : State} (h : SameBook s s') (hs : SizeOK s) : SizeOK s' := by
  unfold SizeOK at *
  rw [h.entries, h.size, h.strategy, h.flen]; exact hs

theorem Keeps.of_sameBook {s s' : State} (h : SameBook s s') : Keeps s s' :=
  ⟨h.strategy, h.flen, h.sizeOK⟩
theorem keeps_composes : Composes Keeps := ⟨Keeps.refl, Keeps.trans⟩

/-- the update of the buffer keeps the size exact when the new size is the old one corrected by the weights
of the entry that goes and the entry that comes.  `s'` is the state a write-back left: memory and disk
may differ from `s`, the book is the same. -/
theorem keeps_setBuf {s s' : State} {r n : Nat} {new : Option Entry} (hb : SameBook s s')
    (hn : SizeOK s → n + weight? s.strategy s.flen (s.entry r) = s.size + weight? s.strategy s.flen new) :
    Keeps s (setBuf s' r new n) := by
  refine ⟨hb.strategy, hb.flen, fun hok => ?_⟩
  obtain ⟨l1, l2, habs, hes, hX⟩ := entries_around (s := s') r (hb.entries ▸ hok.1)
  rw [hb.entries, entry_of_sameBook hb] at hes
  have hsz := hn hok
  rw [hok.2, hes, measure_around] at hsz
  refine ⟨?_, ?_⟩
  · rw [hX, keysNodup_around habs, ← keysNodup_around habs (s.entry r), ← hes]; exact hok.1
  · show n = measure s'.strategy s'.flen (setBuf s' r new n).entries
    rw [hX, hb.strategy, hb.flen, measure_around]; omega

theorem size_ge_weight {s : State} (h : SizeOK s) (r : Nat) : weight? s.strategy s.flen (s.entry r) ≤ s.size := by
  obtain ⟨l1, l2, _, hes, _⟩ := entries_around r h.1
  rw [h.2, hes, measure_around]; omega

/-- the size no longer counts the entry that a flush takes out of the buffer, or leaves there unmodified -/
theorem keeps_fin {s s' : State} {r : Nat} {e : Entry} {new : Option Entry} (hb : SameBook s s')
    (he : s.entry r = some e) (h0 : weight? s.strategy s.flen new = 0) :
    Keeps s (setBuf s' r new (s'.size - weight s.strategy s.flen e)) :=
  keeps_setBuf hb fun hok => by
    have := size_ge_weight hok r
    have hsz := hb.size
    rw [he] at this ⊢
    rw [h0]; simp only [weight?] at this ⊢; omega

theorem keeps_flushOne (s : State) (oi : Nat) (force : Bool) : Keeps s (flushOne s oi force).1 := by
  rcases flushOne_cases s oi force with ⟨hq, _, _⟩ | ⟨o, e, s', new, _, _, he, hq, _, _, hnew, heq⟩
  · exact .of_sameBook hq.book
  · rw [heq]
    -- what stays in the buffer, if anything, weighs nothing
    refine keeps_fin hq.book he ?_
    cases new with
    | none => rfl
    | some e1 => rw [(hnew e1 rfl).2, weight?, weight, (hnew e1 rfl).1]; rfl

/-- the two flushes on their own, for any object `o` (`flushOne` calls them with the object at `oi`) -/
theorem keeps_flushSer (s : State) (oi : Nat) (o : Obj) (force : Bool)
    (hs : s.strategy = .serialized) : Keeps s (flushSer s oi o force).1 := by
  rw [flushSer_eq]
  split
  · cases he : s.entry o.res with
    | none => exact .refl s
    | some e =>
      dsimp only
      rw [finSer_eq, ← hs]
      exact keeps_fin (quiet_writeSer s oi o e).book he rfl
  · exact .refl s

theorem keeps_flushMem (s : State) (oi : Nat) (o : Obj) (force : Bool)
    (hs : s.strategy = .sharedMemory) : Keeps s (flushMem s oi o force).1 := by
  rw [flushMem_eq]
  split
  · cases he : s.entry o.res with
    | none =>
      dsimp only
      split
      · exact .of_sameBook (quiet_reload ..).book
      · exact .refl s
    | some e =>
      dsimp only
      rw [finMem_eq s.flen, ← hs]
      refine keeps_fin (sameBook_writeMem s oi o e) he ?_
      cases force <;> simp [weight?, weight, hs]
  · exact .of_sameBook (.of_core (detach_core s oi o))

theorem keeps_carried : Carried Keeps where
  toComposes := keeps_composes
  same hb _ := Keeps.of_sameBook hb
  flushOne := keeps_flushOne
  init s r e he _ := keeps_setBuf (.refl s) fun _ => by rw [he]; rfl

theorem keeps_flushBuffer (s : State) (force : Bool) : Keeps s (flushBuffer s force).1 :=
  keeps_carried.flushBuffer s force
theorem keeps_setCapacity (s : State) (n : Nat) : Keeps s (setCapacity s n).1 :=
  keeps_carried.setCapacity s n
theorem keeps_ensureEntry (s : State) (oi : Nat) (o : Obj) : Keeps s (ensureEntry s oi o).1 :=
  keeps_carried.ensureEntry s oi o
theorem keeps_load (s : State) (oi : Nat) : Keeps s (load s oi).1 := keeps_carried.load s oi
theorem keeps_enterObj (s : State) (oi : Nat) : Keeps s (enterObj s oi) := keeps_carried.enterObj s oi
theorem keeps_exitObj (s : State) (oi : Nat) : Keeps s (exitObj s oi).1 := keeps_carried.exitObj s oi
theorem keeps_openObj (s : State) (d : Bool) (r : Nat) (data : Option J) :
    Keeps s (openObj s d r data).1 := keeps_carried.openObj s d r data

theorem keeps_save (s : State) (oi : Nat) : Keeps s (save s oi).1 := by
  rcases save_cases s oi with h | ⟨o, _, _, h⟩ | ⟨o, _, _, ⟨_, h⟩ | ⟨e', n, h, hn⟩⟩ <;> rw [h]
  · exact .refl s
  · exact .of_sameBook (quiet_trySave ..).book
  · exact keeps_carried.register s oi
  · exact (keeps_setBuf (sameBook_register s oi) fun hok => hn (size_ge_weight hok _)).trans
      (keeps_carried.overflow _)

theorem keeps_step (s : State) (st : Step) : Keeps s (step s st) := by
  cases st with
  | call h op => exact keeps_carried.call s h op fun _ => keeps_save
  | ext r d => exact Keeps.of_sameBook (sameBook_writeFile s r d)
  | extDel r => exact Keeps.of_sameBook ⟨rfl, rfl, rfl, rfl⟩
  | _ => exact keeps_carried.step s _ rfl

theorem keeps_run (s : State) (steps : List Step) : Keeps s (run s steps) :=
  keeps_carried.toComposes.run steps s fun st _ s => keeps_step s st

theorem sizeOK_init (fam : Fam) (strategy : Buffering) (fl : List ((Int × Nat) × Nat)) :
    SizeOK (State.init fam strategy fl) :=
  ⟨by simp [KeysNodup, State.init], by simp [State.init, measure]⟩

end SC.B
