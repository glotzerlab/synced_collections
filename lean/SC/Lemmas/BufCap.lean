/-
C07/C15 — a flush never grows the size and touches neither capacity, capacity stack nor context
counter; a backend-wide context restores the capacity it was given, also when its exit raises.
-/
import SC.Lemmas.BufRel
namespace SC.B
open SC

/-- what every flush does to the settings and the size: capacity, capacity stack and context
counter stay, the size does not grow -/
def Shrinks (s s' : State) : Prop := s'.size ≤ s.size ∧ SameCap s s'

theorem Shrinks.refl (s : State) : Shrinks s s := ⟨Nat.le_refl _, .refl s⟩
theorem Shrinks.trans {a b c : State} (h1 : Shrinks a b) (h2 : Shrinks b c) : Shrinks a c :=
  ⟨Nat.le_trans h2.1 h1.1, h1.2.trans h2.2⟩
theorem shrinks_composes : Composes Shrinks := ⟨Shrinks.refl, Shrinks.trans⟩
theorem Shrinks.bound {s s' : State} (h : Shrinks s s') (hb : s.size ≤ s.capacity) : s'.size ≤ s'.capacity := by
  rw [h.2.1]; exact Nat.le_trans h.1 hb
theorem Shrinks.of_quiet {s s' : State} (h : Quiet s s') : Shrinks s s' := ⟨Nat.le_of_eq h.book.size, h.cap⟩

/-- the `finally` clause of the shared-memory flush never grows the size -/
theorem fin_le (m force : Bool) (s' : State) (r : Nat) (e' : Entry) :
    (if (!force) = true then (if m = true then { s' with size := s'.size - 1 } else s').delEntry r
      else (if m = true then { s' with size := s'.size - 1 } else s').setEntry r { e' with modified := false }).size ≤ s'.size ∧
    (if (!force) = true then (if m = true then { s' with size := s'.size - 1 } else s').delEntry r
      else (if m = true then { s' with size := s'.size - 1 } else s').setEntry r { e' with modified := false }).capacity = s'.capacity := by
  cases m
  · cases force <;> exact ⟨Nat.le_refl _, rfl⟩
  · cases force <;> exact ⟨Nat.sub_le _ _, rfl⟩

theorem shrinks_flushOne (s : State) (oi : Nat) (force : Bool) : Shrinks s (flushOne s oi force).1 := by
  rcases flushOne_cases s oi force with ⟨hq, _, _⟩ | ⟨_, _, s', _, _, _, _, hq, _, _, _, heq⟩
  · exact .of_quiet hq
  · rw [heq]
    exact (Shrinks.of_quiet hq).trans ⟨Nat.sub_le _ _, rfl, rfl, rfl⟩

theorem shrinks_flushBuffer (s : State) (force : Bool) : Shrinks s (flushBuffer s force).1 :=
  shrinks_composes.flushBuffer shrinks_flushOne (fun _ _ => ⟨Nat.le_refl _, rfl, rfl, rfl⟩) s force

theorem setCapacity_capacity (s : State) (n : Nat) :
    (setCapacity s n).1.capacity = n ∧ (setCapacity s n).1.capStack = s.capStack ∧
    (setCapacity s n).1.ctx = s.ctx := by
  rw [setCapacity_eq, overflow]
  split
  · exact (shrinks_flushBuffer { s with capacity := n } true).2
  · exact ⟨rfl, rfl, rfl⟩

/-- C07 / C15: leaving a backend-wide context pops the capacity stack and, if the context was
entered with a capacity, puts back the capacity saved at entry — for every state, i.e. also when
the flush on exit raises `BufferedError` or the restoring `set_buffer_capacity` forces a flush
that raises. -/
theorem exitCls_restores (s : State) (saved : Option Nat) (rest : List (Option Nat))
    (hst : s.capStack = saved :: rest) :
    (exitCls s).1.capStack = rest ∧
    (exitCls s).1.capacity = (match saved with | some c => c | none => s.capacity) ∧
    (exitCls s).1.ctx = s.ctx - 1 := by
  rw [exitCls_fst]
  have h1 : SameCap { s with ctx := s.ctx - 1 } (if s.ctx - 1 = 0 then flushBuffer { s with ctx := s.ctx - 1 } false
      else ({ s with ctx := s.ctx - 1 }, none)).1 := by
    split
    · exact (shrinks_flushBuffer _ false).2
    · exact SameCap.refl _
  revert h1
  generalize (if s.ctx - 1 = 0 then flushBuffer { s with ctx := s.ctx - 1 } false
      else ({ s with ctx := s.ctx - 1 }, none)).1 = s2
  rintro ⟨c1, c2, c3⟩
  rw [popCap, show s2.capStack = saved :: rest from c2.trans hst]
  cases saved with
  | none => exact ⟨rfl, c1, c3⟩
  | some c =>
    have := setCapacity_capacity { s2 with capStack := rest } c
    exact ⟨this.2.1, this.1, this.2.2.trans c3⟩

theorem enterCls_pushes (s : State) (cap : Option Nat) :
    (enterCls s cap).1.capStack = (cap.map (fun _ => s.capacity)) :: s.capStack ∧
    (enterCls s cap).1.ctx = s.ctx + 1 := by
  unfold enterCls
  cases cap with
  | none => exact ⟨rfl, rfl⟩
  | some c => exact (setCapacity_capacity _ c).2

end SC.B
