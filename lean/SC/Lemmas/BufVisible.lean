/-
C05 / C06 / C07 — what one flush, one buffered save and one buffered load do: conflict
detection, deferral, and reads that see earlier buffered writes: what a buffered save puts into the
buffer is what the next buffered load through ANY object on the file merges into that object
(serialized) or makes it address (shared memory).
-/
import SC.Lemmas.Buffer
import SC.Lemmas.Merge
namespace SC.B
open SC

theorem flushSer_of_entry {s : State} {o : Obj} {force : Bool} {e : Entry} (oi : Nat)
    (hb : (!(s.isBuffered o) || force) = true) (he : s.entry o.res = some e) :
    flushSer s oi o force = (finSer s o e (writeSer s oi o e).1, (writeSer s oi o e).2) := by
  rw [flushSer_eq, if_pos hb, he]

theorem flushMem_of_entry {s : State} {o : Obj} {force : Bool} {e : Entry} (oi : Nat)
    (hb : (!(s.isBuffered o) || force) = true) (he : s.entry o.res = some e) :
    flushMem s oi o force =
      (finMem force o.res e (if force && e.modified && (writeMem s oi o e).2.isNone
        then { e with fmeta := (writeMem s oi o e).1.stat o.res } else e) (writeMem s oi o e).1,
       (writeMem s oi o e).2) := by
  rw [flushMem_eq, if_pos hb, he]

theorem trySave_fails (s : State) (o : Obj) (hw : s.failing.contains o.res = true) :
    trySave s o = (s, some (.other "OSError")) := by
  unfold trySave; rw [if_pos hw]

theorem trySave_ok (s : State) (o : Obj) (hw : s.failing.contains o.res = false) :
    trySave s o = (saveToResource s o, none) := by
  unfold trySave; rw [if_neg (by rw [hw]; exact Bool.false_ne_true)]

/-- the hypothesis is met by `rfl`: it is shaped so that the lemma applies to a state of the form
`finSer …` / `finMem … (saveToResource s o)` without unfolding the `finally` clause -/
theorem store_of_save {X s : State} {o : Obj} (h : X.stores = (saveToResource s o).stores) :
    X.store o.res = some (s.root o).toBase := by
  simp [State.store, h, saveToResource, State.writeFile]

theorem writeSer_saves {s : State} {oi : Nat} {o : Obj} {e : Entry}
    (hm : Tr.same e.contents e.hash = false) (hc : e.fmeta = s.stat o.res)
    (hmerge : (mergeInto s oi o e.contents).2 = none) :
    writeSer s oi o e = trySave (mergeInto s oi o e.contents).1 o := by
  simp only [writeSer, hm, hc, andThen, hmerge, Bool.not_false, if_true, ne_eq, not_true_eq_false, if_false]

/-- C07, serialized strategy: a modified buffered copy whose file changed on disk is not
written; the entry is dropped all the same -/
theorem flushSer_conflict (s : State) (oi : Nat) (o : Obj) (force : Bool) (e : Entry)
    (hb : (!(s.isBuffered o) || force) = true) (he : s.entry o.res = some e)
    (hm : Tr.same e.contents e.hash = false) (hc : e.fmeta ≠ s.stat o.res) :
    (flushSer s oi o force).2 = some (.other "MetadataError") ∧
    (flushSer s oi o force).1.stores = s.stores ∧ (flushSer s oi o force).1.metas = s.metas ∧
    (flushSer s oi o force).1.entry o.res = none := by
  have hw : writeSer s oi o e = (s, some (.other "MetadataError")) := by simp [writeSer, hm, hc]
  rw [flushSer_of_entry oi hb he, hw]
  exact ⟨rfl, (finSer_disk ..).1, (finSer_disk ..).2, finSer_entry ..⟩

theorem flushSer_writes (s : State) (oi : Nat) (o : Obj) (force : Bool) (e : Entry)
    (hb : (!(s.isBuffered o) || force) = true) (he : s.entry o.res = some e)
    (hm : Tr.same e.contents e.hash = false) (hc : e.fmeta = s.stat o.res)
    (hmerge : (mergeInto s oi o e.contents).2 = none) (hw : s.failing.contains o.res = false) :
    (flushSer s oi o force).2 = none ∧
    (flushSer s oi o force).1.store o.res = some ((mergeInto s oi o e.contents).1.root o).toBase ∧
    (flushSer s oi o force).1.entry o.res = none := by
  rw [flushSer_of_entry oi hb he, writeSer_saves hm hc hmerge, trySave_ok _ _ (by rw [mergeInto_failing]; exact hw)]
  exact ⟨rfl, store_of_save rfl, finSer_entry ..⟩

theorem writeMem_saves {s : State} {oi : Nat} {o : Obj} {e : Entry} (hm : e.modified = true)
    (hc : e.fmeta = s.stat o.res) (hw : s.failing.contains o.res = false) :
    writeMem s oi o e =
      (saveToResource (s.setObj oi { o with cell := e.cell }) { o with cell := e.cell }, none) := by
  simp only [writeMem, hm, hc, if_true, ne_eq, not_true_eq_false, if_false]
  exact trySave_ok _ _ hw

theorem flushMem_writes_buffered (s : State) (oi : Nat) (o : Obj) (force : Bool) (e : Entry)
    (hb : (!(s.isBuffered o) || force) = true) (he : s.entry o.res = some e)
    (hm : e.modified = true) (hc : e.fmeta = s.stat o.res) (hw : s.failing.contains o.res = false) :
    (flushMem s oi o force).2 = none ∧
    (flushMem s oi o force).1.store o.res = some (s.cellData e.cell).toBase := by
  rw [flushMem_of_entry oi hb he, writeMem_saves hm hc hw]
  exact ⟨rfl, store_of_save (s := s.setObj oi { o with cell := e.cell }) (o := { o with cell := e.cell }) rfl⟩

/-- `s'` is `s` up to the buffer proper: entries, size and registry — what a buffered save that
does not overflow changes -/
def BufOnly (s s' : State) : Prop :=
  ∃ es n reg, s' = { s with entries := es, size := n, registry := reg }

theorem BufOnly.trans {a b c : State} (h1 : BufOnly a b) (h2 : BufOnly b c) : BufOnly a c := by
  obtain ⟨_, _, _, rfl⟩ := h1
  obtain ⟨es, n, reg, rfl⟩ := h2
  exact ⟨es, n, reg, rfl⟩

namespace BufOnly
variable {s s' : State} (h : BufOnly s s')
include h

theorem objs : s'.objs = s.objs := by
  obtain ⟨_, _, _, rfl⟩ := h; rfl
theorem isBuffered (o : Obj) : s'.isBuffered o = s.isBuffered o := by
  obtain ⟨_, _, _, rfl⟩ := h; rfl
theorem strategy : s'.strategy = s.strategy := by
  obtain ⟨_, _, _, rfl⟩ := h; rfl
theorem root (o : Obj) : s'.root o = s.root o := by
  obtain ⟨_, _, _, rfl⟩ := h; rfl
theorem disk : s'.stores = s.stores ∧ s'.metas = s.metas := by
  obtain ⟨_, _, _, rfl⟩ := h; exact ⟨rfl, rfl⟩

end BufOnly

theorem bufOnly_register (s : State) (oi : Nat) : BufOnly s (s.register oi) :=
  ⟨s.entries, s.size, _, s.register_eq oi⟩

theorem bufOnly_setBuf (s : State) (r : Nat) (new : Option Entry) (n : Nat) : BufOnly s (setBuf s r new n) :=
  ⟨_, n, s.registry, rfl⟩

theorem bufOnly_saveSer (s0 : State) (o : Obj) : BufOnly s0 (saveSer s0 o) := by
  obtain ⟨e', _, _, heq⟩ := saveSer_eq s0 o
  exact heq ▸ bufOnly_setBuf ..

theorem bufOnly_saveMem (s0 : State) (o : Obj) : BufOnly s0 (saveMem s0 o) := by
  obtain ⟨e', n, _, _, _, heq⟩ := saveMem_eq s0 o
  exact heq ▸ bufOnly_setBuf ..

theorem ensureEntry_of_entry {s : State} {o : Obj} {e : Entry} (oi : Nat) (he : s.entry o.res = some e) :
    ensureEntry s oi o = (s.register oi, none) ∧ (s.register oi).entry o.res = some e := by
  refine ⟨by rw [ensureEntry_eq, he]; rfl, ?_⟩
  rw [State.register_eq]; exact he

/-- C06, serialized: a buffered load of a file that is in the buffer merges the buffered contents,
whoever put them there, into the loading object -/
theorem load_ser_merges_entry (s : State) (oi : Nat) (o : Obj) (e : Entry) (ho : s.objs[oi]? = some o)
    (hb : s.isBuffered o = true) (hs : s.strategy = .serialized) (he : s.entry o.res = some e)
    (hcap : ¬ s.size > s.capacity) :
    load s oi = mergeInto (s.register oi) oi o e.contents := by
  have hsz : ¬ (s.register oi).size > (s.register oi).capacity := by rw [State.register_eq]; exact hcap
  rw [load_eq]
  simp only [ho, hb, if_true, hs, ensureEntry_of_entry oi he, andThen, overflow, hsz, if_false]

/-- C06, shared memory: a buffered load of a file that is in the buffer makes the loading object
address the buffered container -/
theorem load_mem_eq (s : State) (oi : Nat) (o : Obj) (e : Entry) (ho : s.objs[oi]? = some o)
    (hb : s.isBuffered o = true) (hs : s.strategy = .sharedMemory) (he : s.entry o.res = some e) :
    load s oi = ((s.register oi).setObj oi { o with cell := e.cell }, none) := by
  rw [load_eq]
  simp only [ho, hb, if_true, hs, ensureEntry_of_entry oi he, andThen]

theorem entry_saveSer (s0 : State) (o : Obj) :
    ∃ e, (saveSer s0 o).entry o.res = some e ∧ e.contents = (s0.root o).toBase := by
  obtain ⟨e', hc, _, heq⟩ := saveSer_eq s0 o
  exact ⟨e', heq ▸ entry_setBuf .., hc⟩

theorem entry_saveMem (s0 : State) (o : Obj) :
    ∃ e, (saveMem s0 o).entry o.res = some e ∧ e.cell = o.cell ∧ e.modified = true := by
  obtain ⟨e', n, hc, hm, _, heq⟩ := saveMem_eq s0 o
  exact ⟨e', heq ▸ entry_setBuf .., hc, hm⟩

theorem save_fits (s : State) (oi : Nat) (o : Obj) (ho : s.objs[oi]? = some o) (hb : s.isBuffered o = true) :
    (s.strategy = .serialized → ¬ (saveSer (s.register oi) o).size > (saveSer (s.register oi) o).capacity →
      save s oi = (saveSer (s.register oi) o, none) ∧ BufOnly s (saveSer (s.register oi) o)) ∧
    (s.strategy = .sharedMemory → ¬ (saveMem (s.register oi) o).size > (saveMem (s.register oi) o).capacity →
      save s oi = (saveMem (s.register oi) o, none) ∧ BufOnly s (saveMem (s.register oi) o)) := by
  rw [save_eq]
  simp only [ho, hb, if_true, overflow]
  exact ⟨fun hs hfit => ⟨by simp only [hs, if_neg hfit], (bufOnly_register s oi).trans (bufOnly_saveSer ..)⟩,
    fun hs hfit => ⟨by simp only [hs, if_neg hfit], (bufOnly_register s oi).trans (bufOnly_saveMem ..)⟩⟩

/-- C05 / C06, serialized: a buffered save through `oi` that fits raises nothing and writes no file, and
the next buffered load through any object `oj` on the same file merges exactly what `oi` saved;
if that load returns, `oj` holds that content (`Eqv`) -/
theorem serialized_write_visible (s : State) (oi oj : Nat) (o oJ : Obj)
    (hs : s.strategy = .serialized)
    (ho : s.objs[oi]? = some o) (hb : s.isBuffered o = true)
    (hoj : s.objs[oj]? = some oJ) (hbj : s.isBuffered oJ = true) (hres : oJ.res = o.res)
    (hfit : ¬ (saveSer (s.register oi) o).size > (saveSer (s.register oi) o).capacity) :
    (save s oi).2 = none ∧ (save s oi).1.stores = s.stores ∧
    load (save s oi).1 oj = mergeInto ((save s oi).1.register oj) oj oJ (s.root o).toBase ∧
    ((load (save s oi).1 oj).2 = none → (s.root o).toBase.wf = true → (s.root oJ).wf = true →
      (s.root o).toBase ≠ .leaf .null →
      Eqv ((load (save s oi).1 oj).1.root oJ) (s.root o).toBase) := by
  obtain ⟨hsv, hX⟩ := (save_fits s oi o ho hb).1 hs hfit
  obtain ⟨e, he, hec⟩ := entry_saveSer (s.register oi) o
  rw [(bufOnly_register s oi).root] at hec
  have hload : load (saveSer (s.register oi) o) oj =
      mergeInto ((saveSer (s.register oi) o).register oj) oj oJ (s.root o).toBase :=
    hec ▸ load_ser_merges_entry _ oj oJ e (hX.objs ▸ hoj) ((hX.isBuffered oJ).trans hbj) (hX.strategy.trans hs)
      (hres ▸ he) hfit
  rw [hsv]
  refine ⟨rfl, hX.disk.1, hload, fun herr hwf hwt hnn => ?_⟩
  -- the merge post-condition, on the memory `oJ` had in `s`
  have hroot := (hX.trans (bufOnly_register _ oj)).root oJ
  rw [hload] at herr ⊢
  rw [mergeInto_root, hroot]
  refine (updNode_post _ _ _ _ hwf hwt hnn ?_).1
  rw [← hroot]
  exact herr

end SC.B
