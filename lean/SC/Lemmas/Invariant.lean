/-
C11 — forbidden data never reaches memory, along every operation: the body of every public
operation keeps the node (and everything that falls out of it) within the family's requirement,
given that the validation that precedes the operation passed.
-/
import SC.Lemmas.Find
import SC.Lemmas.Tree
import SC.Lemmas.Seq
import SC.Lemmas.SubP
namespace SC
open Tr

section
variable {ι : Type} (kr : KeyReq) (lr : LeafReq)

/-- what a plain dict method is given must be within the requirement -/
def DictMut.Ok : DictMut (Tr ι) → Prop
  | .setitem k v => kr.ok k = true ∧ Tr.all kr lr v = true
  | _ => True

def ListMut.Ok : ListMut (Tr ι) → Prop
  | .setitem _ v => Tr.all kr lr v = true
  | .setslice _ vs => Tr.allL kr lr vs = true
  | .insert _ v => Tr.all kr lr v = true
  | .append v => Tr.all kr lr v = true
  | .extend vs => Tr.allL kr lr vs = true
  | _ => True

theorem DictMut.news_of_ok {m : DictMut (Tr ι)} (h : DictMut.Ok kr lr m) :
    ∀ p ∈ DictMut.news m, kr.ok p.1 = true ∧ Tr.all kr lr p.2 = true := by
  cases m with
  | setitem k v => exact List.forall_mem_singleton.mpr h
  | _ => exact List.forall_mem_nil _

theorem ListMut.news_of_ok {m : ListMut (Tr ι)} (h : ListMut.Ok kr lr m) :
    ∀ x ∈ ListMut.news m, Tr.all kr lr x = true := by
  cases m with
  | setitem _ v | insert _ v | append v => exact List.forall_mem_singleton.mpr h
  | setslice _ vs | extend vs => exact (allL_iff kr lr).mp h
  | _ => exact List.forall_mem_nil _

theorem dictMut_ok (kvs : List (Key × Tr ι)) (m : DictMut (Tr ι)) (h : Tr.allKV kr lr kvs = true)
    (hm : DictMut.Ok kr lr m) :
    ∀ r, dictMut kvs m = .ok r → Tr.allKV kr lr r.data = true ∧ Tr.allL kr lr r.removed = true := by
  intro r hr
  rw [allKV_iff_forall] at h ⊢
  rw [allL_iff]
  refine ⟨fun p hp => ?_, fun x hx => ?_⟩
  · rcases List.mem_append.mp ((dictMut_subp kvs m r hr).subset p hp) with h1 | h1
    · exact h p h1
    · exact DictMut.news_of_ok kr lr hm p h1
  · obtain ⟨k, hk⟩ := (dictMut_sel kvs m r hr).2 x hx
    exact (h (k, x) hk).2

theorem listMut_ok (xs : List (Tr ι)) (m : ListMut (Tr ι)) (h : Tr.allL kr lr xs = true)
    (hm : ListMut.Ok kr lr m) :
    ∀ r, listMut xs m = .ok r → Tr.allL kr lr r.data = true ∧ Tr.allL kr lr r.removed = true := by
  intro r hr
  obtain ⟨hsel, hrem⟩ := listMut_sel xs m r hr
  simp only [allL_iff] at h ⊢
  refine ⟨fun x hx => ?_, fun x hx => h x (hrem x hx)⟩
  rcases List.mem_append.mp (hsel.subset x hx) with h1 | h1
  · exact h x h1
  · exact ListMut.news_of_ok kr lr hm x h1

end

section find
variable (kr : KeyReq) (lr : LeafReq)

theorem all_find (h : Nat) : ∀ (t c : T), Tr.all kr lr t = true → Tr.find h t = some c → Tr.all kr lr c = true :=
  fun _ _ => find_hered fun _ => all_kids
theorem allL_findL (h : Nat) : ∀ (xs : List T) (c : T), Tr.allL kr lr xs = true → Tr.findL h xs = some c →
    Tr.all kr lr c = true := by
  intro xs c ht hf
  obtain ⟨x, hx, hfx⟩ := findL_some hf
  exact all_find kr lr h x c ((allL_iff kr lr).mp ht x hx) hfx
theorem allKV_findKV (h : Nat) : ∀ (kvs : List (Key × T)) (c : T), Tr.allKV kr lr kvs = true →
    Tr.findKV h kvs = some c → Tr.all kr lr c = true := by
  intro kvs c ht hf
  obtain ⟨kv, hkv, hfx⟩ := findKV_some hf
  exact all_find kr lr h kv.2 c ((allKV_iff_forall kr lr).mp ht kv hkv).2 hfx

theorem all_replace (h : Nat) (new : T) (hn : Tr.all kr lr new = true) :
    ∀ t : T, Tr.all kr lr t = true → Tr.all kr lr (Tr.replace h new t) = true :=
  fun _ => replace_hered (fun _ => all_kids) (fun _ _ => all_mapKids) hn
theorem allL_replaceL (h : Nat) (new : T) (hn : Tr.all kr lr new = true) :
    ∀ xs : List T, Tr.allL kr lr xs = true → Tr.allL kr lr (Tr.replaceL h new xs) = true := by
  intro xs ht
  rw [replaceL_eq]
  exact (allL_iff kr lr).mpr (List.forall_mem_map.mpr fun c hc =>
    all_replace kr lr h new hn c ((allL_iff kr lr).mp ht c hc))
theorem allKV_replaceKV (h : Nat) (new : T) (hn : Tr.all kr lr new = true) :
    ∀ kvs : List (Key × T), Tr.allKV kr lr kvs = true → Tr.allKV kr lr (Tr.replaceKV h new kvs) = true := by
  intro kvs ht
  rw [replaceKV_eq]
  exact (allKV_iff_forall kr lr).mpr (List.forall_mem_map.mpr fun p hp =>
    have hp := (allKV_iff_forall kr lr).mp ht p hp
    ⟨hp.1, all_replace kr lr h new hn p.2 hp.2⟩)

end find

section body
variable (kr : KeyReq) (lr : LeafReq) (fam : Fam)
variable (hd : keyReq fam.dictV = kr ∧ leafReq fam.dictV = lr)
variable (hl : keyReq fam.listV = kr ∧ leafReq fam.listV = lr)

theorem iterate_ok {ι : Type} (t : Tr ι) (vs : List (Tr ι)) (ht : Tr.all kr lr t = true) (h : iterate t = .ok vs) :
    Tr.allL kr lr vs = true := by
  rcases iterate_cases h with ⟨i, rfl⟩ | hleaves
  · exact ht
  · rw [allL_iff]
    intro x hx
    -- strings and integers pass every leaf requirement
    rcases hleaves x hx with ⟨s, rfl⟩ | ⟨i, rfl⟩ <;> cases lr <;> rfl

theorem dmutRes_ok (t : T) (i : Nat) (kvs : List (Key × T)) (m : DictMut T) (n : Nat)
    (ht : Tr.all kr lr t = true) (hk : Tr.allKV kr lr kvs = true) (hm : DictMut.Ok kr lr m) :
    Tr.all kr lr (dmutRes t i kvs m n).node = true ∧ Tr.allL kr lr (dmutRes t i kvs m n).det = true := by
  unfold dmutRes
  cases hr : dictMut kvs m with
  | error e => exact ⟨ht, rfl⟩
  | ok r => exact dictMut_ok kr lr kvs m hk hm r hr

theorem lmutRes_ok (t : T) (i : Nat) (xs : List T) (m : ListMut T) (n : Nat)
    (ht : Tr.all kr lr t = true) (hk : Tr.allL kr lr xs = true) (hm : ListMut.Ok kr lr m) :
    Tr.all kr lr (lmutRes t i xs m n).node = true ∧ Tr.allL kr lr (lmutRes t i xs m n).det = true := by
  unfold lmutRes
  cases hr : listMut xs m with
  | error e => exact ⟨ht, rfl⟩
  | ok r => exact listMut_ok kr lr xs m hk hm r hr

include hd hl in
/-- C11, the body: on a node within the requirement, after the validation that precedes the
operation passed, the node afterwards and everything that left it are within the requirement —
for every operation of the API, also when the body raises half-way. -/
theorem runBody_ok (t : T) (op : Op) (n : Nat) (ht : Tr.all kr lr t = true)
    (hpre : preValidate fam t.isDict op = none) :
    Tr.all kr lr (runBody fam t op n).node = true ∧ Tr.allL kr lr (runBody fam t op n).det = true := by
  have hvalKV : ∀ (k : Key) (v : J), validateKV fam.dictV [(k, v)] = none →
      kr.ok k = true ∧ Tr.all kr lr (fromBase v n).1 = true := by
    intro k v h
    rw [validateKV_single, hd.1, hd.2] at h
    rwa [all_fromBase]
  have hvalL : ∀ (v : J), validate fam.listV v = none → Tr.all kr lr (fromBase v n).1 = true := by
    intro v h
    rw [validate_none, hl.1, hl.2] at h
    rwa [all_fromBase]
  have hsame : Tr.all kr lr t = true ∧ Tr.allL kr lr ([] : List T) = true := ⟨ht, rfl⟩
  cases t with
  | leaf s => rw [runBody_leaf]; exact hsame
  | dict i kvs =>
    have hk : Tr.allKV kr lr kvs = true := ht
    cases op with
    | dSetitem k v => exact dmutRes_ok kr lr _ i kvs (.setitem k _) _ ht hk (hvalKV k v hpre)
    | dDelitem _ | dPop _ _ | dPopitem | dClear => exact dmutRes_ok kr lr _ i kvs _ n ht hk trivial
    | dSetdefault k d =>
      rw [runBody_dSetdefault]
      split
      · exact hsame
      · split
        · exact hsame
        · next hv => exact ⟨allKV_setKey kr lr hk (hvalKV k d hv).1 (hvalKV k d hv).2, rfl⟩
    | dUpdate other kw => rw [runBody_dUpdate]; exact updDictLoop_ok kr lr fam hd hl _ kvs n hk
    | dReset v => exact updNode_ok kr lr fam hd hl v (.dict i kvs) n ht
    | dRead rd => rw [runBody_dRead]; split <;> exact hsame
    | _ => exact hsame
  | list i xs =>
    have hk : Tr.allL kr lr xs = true := ht
    cases op with
    | lSetitem ix v =>
      cases ix with
      | i j => exact lmutRes_ok kr lr _ i xs (.setitem j _) _ ht hk (hvalL v hpre)
      | sl sl =>
        rw [runBody_lSetslice]
        split
        · exact hsame
        · next vs hit => exact lmutRes_ok kr lr _ i xs _ _ ht hk (iterate_ok kr lr _ vs (hvalL v hpre) hit)
    | lInsert j v => exact lmutRes_ok kr lr _ i xs (.insert j _) _ ht hk (hvalL v hpre)
    | lAppend v => exact lmutRes_ok kr lr _ i xs (.append _) _ ht hk (hvalL v hpre)
    | lExtend v | lIadd v =>
      simp only [runBody_lIadd, runBody_lExtend]
      dsimp only [preValidate] at hpre
      split
      · exact hsame
      · next vs hit =>
        rw [hit, validateL_none, hl.1, hl.2, ← allL_fromBaseL kr lr vs n] at hpre
        exact lmutRes_ok kr lr _ i xs _ _ ht hk hpre
    | lDelitem _ | lRemove _ | lClear | lPop _ | lReverse => exact lmutRes_ok kr lr _ i xs _ n ht hk trivial
    | lReset v => exact updNode_ok kr lr fam hd hl v (.list i xs) n ht
    | lRead rd => rw [runBody_lRead]; split <;> exact hsame
    | _ => exact hsame

end body

section state
variable (kr : KeyReq) (lr : LeafReq) (W : J → Prop)

/-- the family's validators enforce exactly `(kr, lr)` on both sides -/
def FamReq (f : Fam) : Prop :=
  (keyReq f.dictV = kr ∧ leafReq f.dictV = lr) ∧ (keyReq f.listV = kr ∧ leafReq f.listV = lr)

/-- Everything in memory (every object's tree, every node that fell out of a tree) is within the
requirement, every backend holds a document that satisfies `W`, and every object belongs to a family
that enforces the requirement.  The backends hold what outside writers write as well, so what is
known of them is a parameter: `W := fun _ => True` for the statement about memory (the writers may
write anything), `W := Tr.all kr lr` for the statement about the backends. -/
structure Clean (s : State) : Prop where
  objs : ∀ o ∈ s.objs, Tr.all kr lr o.root = true
  det : ∀ p ∈ s.detached, Tr.all kr lr p.2 = true
  stores : ∀ p ∈ s.stores, W p.2
  fams : ∀ o ∈ s.objs, FamReq kr lr (s.fam o)

variable {kr lr W}

theorem Clean.setRoot {s : State} (h : Clean kr lr W s) {oi : Nat} {o : Obj} (ho : s.objs[oi]? = some o)
    (new : T) (hn : Tr.all kr lr new = true) : Clean kr lr W (s.setObj oi { o with root := new }) := by
  have hset : ∀ {P : Obj → Prop}, (∀ x ∈ s.objs, P x) → P { o with root := new } →
      ∀ x ∈ s.objs.set oi { o with root := new }, P x :=
    fun hall hnew x hx => (List.mem_or_eq_of_mem_set hx).elim (hall x) (· ▸ hnew)
  exact ⟨hset h.objs hn, h.det, h.stores, hset h.fams (h.fams o (List.mem_of_getElem? ho))⟩

theorem Clean.after_own {s : State} (h : Clean kr lr W s) (a b c : Nat) : Clean kr lr W (s.own a b c) := by
  unfold State.own; split <;> exact ⟨h.objs, h.det, h.stores, h.fams⟩

theorem Clean.after_addDetached {s : State} (h : Clean kr lr W s) (oi : Nat) (ts : List T)
    (ht : Tr.allL kr lr ts = true) : Clean kr lr W (s.addDetached oi ts) := by
  refine ⟨h.objs, ?_, h.stores, h.fams⟩
  intro p hp
  simp only [State.addDetached, List.mem_append, List.mem_map] at hp
  rcases hp with h1 | ⟨t, htm, rfl⟩
  · exact h.det p h1
  · exact (allL_iff kr lr).mp (containers_ok kr lr ht) t htm

theorem Clean.after_setStore {s : State} (h : Clean kr lr W s) (r : Nat) (d : J) (hd : W d) :
    Clean kr lr W (s.setStore r d) :=
  ⟨h.objs, h.det, fun p hp => (State.mem_setStore hp).elim (· ▸ hd) (h.stores p), h.fams⟩

theorem Clean.of_handleNode {s : State} (h : Clean kr lr W s) {hd : Handle} {t : T} (ht : handleNode s hd = some t) :
    Tr.all kr lr t = true := by
  rcases handleNode_cases ht with ⟨o, ob, -, ho, rfl⟩ | ⟨id, -, hf⟩ | ⟨id, -, -, hf⟩
  · exact h.objs ob (List.mem_of_getElem? ho)
  · obtain ⟨o, ho, hf⟩ := List.exists_of_findSome?_eq_some hf
    exact all_find kr lr id _ _ (h.objs o ho) hf
  · obtain ⟨p, hp, hf⟩ := List.exists_of_findSome?_eq_some hf
    exact all_find kr lr id _ _ (h.det p hp) hf

theorem Clean.after_loadRoot {s : State} (h : Clean kr lr W s) (oi : Nat) : Clean kr lr W (loadRoot s oi).1 := by
  rcases loadRoot_cases s oi with h1 | ⟨o, d, ho, -, h1⟩ <;> rw [h1]
  · exact h
  · have hf := h.fams o (List.mem_of_getElem? ho)
    have hu := updNode_ok kr lr (s.fam o) hf.1 hf.2 d o.root s.next (h.objs o (List.mem_of_getElem? ho))
    exact ((h.setRoot ho _ hu.1).after_own _ _ _).after_addDetached _ _ hu.2

theorem Clean.after_putNode {s : State} (h : Clean kr lr W s) (hd : Handle) (new : T) (hn : Tr.all kr lr new = true) :
    Clean kr lr W (putNode s hd new) := by
  unfold SC.putNode
  cases hd with
  | root o =>
    simp only
    cases ho : s.objs[o]? with
    | none => exact h
    | some ob => exact h.setRoot ho new hn
  | node id =>
    exact ⟨List.forall_mem_map.mpr fun o ho => all_replace kr lr id new hn _ (h.objs o ho),
      List.forall_mem_map.mpr fun p hp => all_replace kr lr id new hn _ (h.det p hp), h.stores,
      List.forall_mem_map.mpr fun o ho => h.fams o ho⟩

theorem Clean.after_saveRoot {s : State} (hW : ∀ d : J, Tr.all kr lr d = true → W d) (h : Clean kr lr W s)
    (oi : Nat) : Clean kr lr W (saveRoot s oi) := by
  unfold SC.saveRoot
  cases ho : s.objs[oi]? with
  | none => exact h
  | some o =>
    simp only
    exact h.after_setStore _ _ (hW _ (by rw [all_toBase]; exact h.objs o (List.mem_of_getElem? ho)))

/-- C11 for one public call: from a clean state, whatever the handle, the operation and its
arguments, the state after the call is clean — memory of every object, every node that fell out
of a tree, every backend — whether the call returns or raises. -/
theorem Clean.after_call {s : State} (hW : ∀ d : J, Tr.all kr lr d = true → W d) (h : Clean kr lr W s)
    (hd : Handle) (op : Op) : Clean kr lr W (call s hd op).1 := by
  refine call_preserves h h.after_loadRoot ?_ (fun _ _ oi h2 => h2.after_saveRoot hW oi)
  intro oi _ o t0 s1 t c h1
  have hf := h.fams o (List.mem_of_getElem? c.hobj)
  have hb := runBody_ok kr lr (s.fam o) hf.1 hf.2 t op s1.next (h1.of_handleNode c.hnode)
    (by rw [preValidate_irrel _ t.isDict t0.isDict]; exact c.hpre)
  exact ((h1.after_putNode hd _ hb.1).after_own _ _ _).after_addDetached _ _ hb.2

/-- a constructor call: constructor data is validated, not saved -/
theorem Clean.after_openObj {s : State} (h : Clean kr lr W s) (fam : Nat) (isDict : Bool) (res : Nat) (data : Option J)
    (hfam : FamReq kr lr (s.fams.getD fam default)) :
    Clean kr lr W (openObj s fam isDict res data).1 := by
  rcases openObj_cases s fam isDict res data with h1 | ⟨d, h1, hdata⟩ <;> rw [h1]
  · exact h
  · have hr : Tr.all kr lr (fromBase d s.next).1 = true := by
      rw [all_fromBase]
      rcases hdata with ⟨-, rfl⟩ | ⟨-, hv⟩
      · split <;> rfl
      · split at hv
        · rwa [validate_none, hfam.1.1, hfam.1.2] at hv
        · rwa [validate_none, hfam.2.1, hfam.2.2] at hv
    apply Clean.after_own
    exact ⟨List.forall_mem_append.mpr ⟨h.objs, List.forall_mem_singleton.mpr hr⟩, h.det, h.stores,
      List.forall_mem_append.mpr ⟨h.fams, List.forall_mem_singleton.mpr hfam⟩⟩

theorem empty_clean (fams : List Fam) : Clean kr lr W (State.empty fams) :=
  ⟨List.forall_mem_nil _, List.forall_mem_nil _, List.forall_mem_nil _, List.forall_mem_nil _⟩

theorem Clean.after_ext {s : State} (h : Clean kr lr W s) (res : Nat) (d : J) (hd : W d) :
    Clean kr lr W (extWrite s res d) := h.after_setStore res d hd

end state
end SC
