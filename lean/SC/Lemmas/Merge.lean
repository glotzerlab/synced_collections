/-
The merge post-condition (`updNode_post`): when `_update` returns normally, the merged tree has
exactly the content of the data — same structure, same scalars (constructor and payload) at
every leaf, dict keys as sets (key ORDER follows memory, then new keys) — for every tree and
every data of any depth and width.
-/
import SC.Lemmas.Tree
namespace SC
open Tr

variable {ι : Type}

mutual
/-- content equivalence: same structure and scalars, dict keys as sets -/
def Eqv : T → Tr ι → Prop
  | .leaf a, .leaf b => a = b
  | .list _ xs, .list _ ys => EqvL xs ys
  | .dict _ kvs, .dict _ kws => EqvKV kvs kws ∧ ∀ k, Tr.hasKey k kws = true → Tr.hasKey k kvs = true
  | _, _ => False
def EqvL : List T → List (Tr ι) → Prop
  | [], [] => True
  | x :: xs, y :: ys => Eqv x y ∧ EqvL xs ys
  | _, _ => False
def EqvKV : List (Key × T) → List (Key × Tr ι) → Prop
  | [], _ => True
  | (k, v) :: kvs, kws => (∃ w, Tr.lookup k kws = some w ∧ Eqv v w) ∧ EqvKV kvs kws
end

theorem EqvKV_iff (kvs : List (Key × T)) (kws : List (Key × Tr ι)) :
    EqvKV kvs kws ↔ ∀ kv ∈ kvs, ∃ w, Tr.lookup kv.1 kws = some w ∧ Eqv kv.2 w := by
  induction kvs with
  | nil => simp [EqvKV]
  | cons p ps ih =>
    obtain ⟨k, v⟩ := p
    simp only [EqvKV, ih, List.mem_cons, forall_eq_or_imp]

theorem Eqv.kinds {c : T} {d : Tr ι} (h : Eqv c d) : c.isDict = d.isDict ∧ c.isList = d.isList := by
  unfold Eqv at h
  split at h
  · exact ⟨rfl, rfl⟩
  · exact ⟨rfl, rfl⟩
  · exact ⟨rfl, rfl⟩
  · exact h.elim

theorem eqv_dict {t : T} {dkvs : List (Key × Tr ι)} {u : ι} (h : Eqv t (.dict u dkvs)) :
    ∃ j tkvs, t = .dict j tkvs ∧
      (∀ k w, Tr.lookup k dkvs = some w → ∃ x, Tr.lookup k tkvs = some x ∧ Eqv x w) ∧
      (∀ k, Tr.lookup k dkvs = none → Tr.lookup k tkvs = none) := by
  cases t with
  | leaf s => cases h
  | list j xs => cases h
  | dict j tkvs =>
    have hkey : ∀ k x, Tr.lookup k tkvs = some x → ∃ w, Tr.lookup k dkvs = some w ∧ Eqv x w :=
      fun k x hx => (EqvKV_iff tkvs dkvs).mp h.1 (k, x) (mem_of_lookup hx)
    refine ⟨j, tkvs, rfl, fun k w hw => ?_, fun k hk => ?_⟩
    · obtain ⟨x, hx⟩ := (hasKey_iff_lookup k tkvs).mp (h.2 k ((hasKey_iff_lookup k dkvs).mpr ⟨w, hw⟩))
      obtain ⟨w', hw', hxw⟩ := hkey k x hx
      cases hw.symm.trans hw'
      exact ⟨x, hx, hxw⟩
    · cases hx : Tr.lookup k tkvs with
      | none => rfl
      | some x =>
        obtain ⟨w, hw, -⟩ := hkey k x hx
        cases hk.symm.trans hw

mutual
theorem eqv_fromBase : ∀ (v : Tr ι) (n : Nat), v.wf = true → Eqv (fromBase v n).1 v
  | .leaf s => fun _ _ => (rfl : s = s)
  | .list _ xs => fun n h => eqvL_fromBaseL xs (n + 1) h
  | .dict _ kvs => fun n h =>
    ⟨eqvKV_fromBaseKV kvs (n + 1) h, fun k hk => (hasKey_fromBaseKV kvs _ k).trans hk⟩
theorem eqvL_fromBaseL : ∀ (xs : List (Tr ι)) (n : Nat), Tr.wfL xs = true → EqvL (fromBaseL xs n).1 xs
  | [] => fun _ _ => trivial
  | x :: xs => fun n h => by
    simp only [Tr.wfL, Bool.and_eq_true] at h
    exact ⟨eqv_fromBase x n h.1, eqvL_fromBaseL xs _ h.2⟩
theorem eqvKV_fromBaseKV : ∀ (kvs : List (Key × Tr ι)) (n : Nat), Tr.wfKV kvs = true →
    EqvKV (fromBaseKV kvs n).1 kvs
  | [] => fun _ _ => trivial
  | (k, v) :: kvs => fun n h => by
    obtain ⟨hk, hv, hkvs⟩ := wfKV_cons.mp h
    refine ⟨⟨v, if_pos rfl, eqv_fromBase v n hv⟩, (EqvKV_iff _ _).mpr fun kv hkv => ?_⟩
    obtain ⟨w, hw, he⟩ := (EqvKV_iff _ _).mp (eqvKV_fromBaseKV kvs _ hkvs) kv hkv
    -- `kv.1` is a key of the other bindings, `k` is not: looking `kv.1` up skips the head
    have hne : k ≠ kv.1 := fun e => by rw [e, (hasKey_iff_lookup _ _).mpr ⟨w, hw⟩] at hk; cases hk
    exact ⟨w, (if_neg hne).trans hw, he⟩
end

theorem elemStep_post {existing : T} {new : Tr ι} {nested : UpdRes T} {verr : Option Err} {n : Nat}
    (hnew : new.wf = true) (hex : existing.wf = true)
    (hnested : nested.err = none → existing.isLeaf = false → new ≠ .leaf .null →
      Eqv nested.val new ∧ nested.val.wf = true)
    (herr : (elemStep existing new nested verr n).err = none) :
    Eqv (elemStep existing new nested verr n).val new ∧ (elemStep existing new nested verr n).val.wf = true := by
  have hrep : ∀ (cur : T) (m : Nat) (det : List T), (replaceStep new verr cur m det).err = none →
      Eqv (replaceStep new verr cur m det).val new ∧ (replaceStep new verr cur m det).val.wf = true := by
    intro cur m det h
    rw [replaceStep_err] at h; subst h
    exact ⟨eqv_fromBase new m hnew, wf_fromBase new m hnew⟩
  rcases elemStep_cases existing new nested verr n with ⟨s, rfl, rfl, h⟩ | ⟨_, h⟩ | ⟨hl, hnn, ⟨h, _⟩ | ⟨_, h⟩⟩ <;>
    rw [h] at herr ⊢
  · exact ⟨(rfl : s = s), hex⟩
  · exact hrep _ _ _ herr
  · exact hnested herr hl hnn
  · exact hrep _ _ _ herr

theorem updDictLoop_other (fam : Fam) (k : Key) : ∀ (data : List (Key × Tr ι)) (cur : List (Key × T)) (n : Nat),
    Tr.hasKey k data = false → Tr.lookup k (updDictLoop fam cur data n).val = Tr.lookup k cur
  | [] => fun _ _ _ => rfl
  | (k0, v0) :: rest => fun cur n h => by
    rw [hasKey_cons, Bool.or_eq_false_iff, decide_eq_false_iff_not] at h
    have hne : k ≠ k0 := fun e => h.1 e.symm
    simp only [updDictLoop]
    split
    · split
      · rfl
      · rw [updDictLoop_other fam k rest _ _ h.2, lookup_append]
        cases Tr.lookup k cur <;> simp [Tr.lookup, h.1]
    · split
      · exact lookup_setKey_other k0 k _ cur hne
      · rw [updDictLoop_other fam k rest _ _ h.2, lookup_setKey_other k0 k _ cur hne]

/-- the end of `SyncedDict._update`, where the keys the data lacks are removed (`to_remove`) -/
theorem eqv_filter_hasKey {res : List (Key × T)} {dkvs : List (Key × Tr ι)} (i : Nat) (j : ι)
    (hw : Tr.wfKV res = true)
    (ha : ∀ k v, Tr.lookup k dkvs = some v → ∃ v', Tr.lookup k res = some v' ∧ Eqv v' v) :
    Eqv (.dict i (res.filter fun kv => Tr.hasKey kv.1 dkvs)) (.dict j dkvs) := by
  refine ⟨(EqvKV_iff _ _).mpr fun kv hkv => ?_, fun k hk => ?_⟩
  · obtain ⟨hmem, hin⟩ := List.mem_filter.mp hkv
    obtain ⟨w, hw'⟩ := (hasKey_iff_lookup kv.1 dkvs).mp hin
    obtain ⟨v', hv', he⟩ := ha kv.1 w hw'
    rw [lookup_of_mem hw kv hmem] at hv'; cases hv'
    exact ⟨w, hw', he⟩
  · obtain ⟨w, hw'⟩ := (hasKey_iff_lookup k dkvs).mp hk
    obtain ⟨v', hv', _⟩ := ha k w hw'
    exact (hasKey_iff_lookup _ _).mpr ⟨v', by rw [lookup_filter_hasKey k _ dkvs hk]; exact hv'⟩

mutual
/-- MERGE POST-CONDITION.  If `existing._update(data)` returns normally — for any tree with
unique keys, any data with unique keys other than a bare null, any depth and width — the
merged tree has exactly the content of the data (and unique keys again). -/
theorem updNode_post (fam : Fam) : ∀ (d : Tr ι) (t : T) (n : Nat), d.wf = true → t.wf = true →
    d ≠ .leaf .null → (updNode fam t d n).err = none →
    Eqv (updNode fam t d n).val d ∧ (updNode fam t d n).val.wf = true
  | .leaf s => fun t n _ _ hnn herr => by
    rw [updNode_leaf, if_neg fun e : s = .null => hnn (congrArg _ e)] at herr; cases herr
  | .list j dxs => fun t n hd ht _ herr => by
    refine ⟨?_, updNode_wf fam _ t n ht hd⟩
    cases t with
    | list i xs => exact (updListLoop_post fam dxs xs n hd ht herr).1
    | _ => cases herr
  | .dict j dkvs => fun t n hd ht _ herr => by
    refine ⟨?_, updNode_wf fam _ t n ht hd⟩
    cases t with
    | leaf s => cases herr
    | list i xs => cases herr
    | dict i kvs =>
      simp only [updNode] at herr ⊢
      cases hl : (updDictLoop fam kvs dkvs n).err with
      | some e => simp [hl] at herr
      | none =>
        exact eqv_filter_hasKey i j (updDictLoop_wf fam dkvs kvs n ht hd)
          (updDictLoop_post fam dkvs kvs n hd ht hl)
theorem updDictLoop_post (fam : Fam) : ∀ (data : List (Key × Tr ι)) (cur : List (Key × T)) (n : Nat),
    Tr.wfKV data = true → Tr.wfKV cur = true → (updDictLoop fam cur data n).err = none →
    ∀ k v, Tr.lookup k data = some v →
      ∃ v', Tr.lookup k (updDictLoop fam cur data n).val = some v' ∧ Eqv v' v
  | [] => fun cur n _ _ _ k v h => by simp [Tr.lookup] at h
  | (k, v) :: rest => fun cur n hd hc herr => by
    obtain ⟨hknot, hvw, hrw⟩ := wfKV_cons.mp hd
    -- after the step at `k`, memory `cur'` holds `x` there, with the content of `v`; the rest of
    -- the loop puts the other keys right and leaves `k` alone
    have key : ∀ (cur' : List (Key × T)) (m : Nat) (x : T), Tr.lookup k cur' = some x → Eqv x v →
        Tr.wfKV cur' = true → (updDictLoop fam cur' rest m).err = none →
        ∀ k2 v2, Tr.lookup k2 ((k, v) :: rest) = some v2 →
          ∃ v', Tr.lookup k2 (updDictLoop fam cur' rest m).val = some v' ∧ Eqv v' v2 := by
      intro cur' m x hx hxv hc' herr' k2 v2 h2
      simp only [Tr.lookup] at h2
      split at h2
      · next e => subst e; cases h2; exact ⟨x, by rw [updDictLoop_other fam k rest _ _ hknot, hx], hxv⟩
      · exact updDictLoop_post fam rest cur' m hrw hc' herr' k2 v2 h2
    simp only [updDictLoop] at herr ⊢
    split at herr
    · next hlook =>
      split at herr
      · cases herr
      · exact key _ _ _ (by rw [lookup_append, hlook]; simp [Tr.lookup]) (eqv_fromBase v n hvw)
          (wfKV_append cur k _ hc (by simp [Tr.hasKey, hlook]) (wf_fromBase v n hvw)) herr
    · next existing hlook =>
      have hexw := wf_of_lookup hc hlook
      split at herr
      · cases herr
      · next hse =>
        have hstep := elemStep_post (n := n) (verr := validateKV fam.dictV [(k, v)]) hvw hexw
          (fun hne _ hnn => updNode_post fam v existing n hvw hexw hnn hne) hse
        exact key _ _ _ (lookup_setKey_same k _ cur) hstep.1 (wfKV_setKey cur k _ hc hstep.2) herr
theorem updListLoop_post (fam : Fam) : ∀ (data : List (Tr ι)) (cur : List T) (n : Nat),
    Tr.wfL data = true → Tr.wfL cur = true → (updListLoop fam cur data n).err = none →
    EqvL (updListLoop fam cur data n).val data ∧ Tr.wfL (updListLoop fam cur data n).val = true
  | [], [] => fun n _ _ _ => ⟨trivial, rfl⟩
  | [], c :: cs => fun n _ _ _ => ⟨trivial, rfl⟩
  | d :: ds, [] => fun n hd hc herr => by
    refine ⟨?_, updListLoop_wf fam _ _ n hc hd⟩
    simp only [updListLoop] at herr ⊢
    split at herr
    · cases herr
    · exact eqvL_fromBaseL (d :: ds) n hd
  | d :: ds, c :: cs => fun n hd hc herr => by
    refine ⟨?_, updListLoop_wf fam _ _ n hc hd⟩
    simp only [Tr.wfL, Bool.and_eq_true] at hd hc
    simp only [updListLoop] at herr ⊢
    split at herr
    · cases herr
    · next hse =>
      have hstep := elemStep_post (n := n) (verr := validate fam.listV d) hd.1 hc.1
        (fun hne _ hnn => updNode_post fam d c n hd.1 hc.1 hnn hne) hse
      exact ⟨hstep.1, (updListLoop_post fam ds cs _ hd.2 hc.2 herr).1⟩
end

end SC
