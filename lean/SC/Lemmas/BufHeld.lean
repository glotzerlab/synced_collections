/-
C15 — boundedness and zero-outside.
Invariant `Held`: every file in the buffer has a *holder*: a registered object bound to that
file that is currently buffered.  Here: what one flush and the loop of `_flush_buffer` do to the
entries (`flushOne_facts`, `flushBufferLoop_facts`) and that `_flush_buffer` keeps `Held`
(`flushBuffer_held`); what follows for the size is in `BufBound`.
-/
import SC.Lemmas.BufRel
namespace SC.B
open SC

/-- file `r` has a holder: a registered object bound to it that is currently buffered -/
def Holder (s : State) (r : Nat) : Prop :=
  ∃ oi ∈ s.registry, ∃ o, s.objs[oi]? = some o ∧ o.res = r ∧ s.isBuffered o = true

def Held (s : State) : Prop := ∀ p ∈ s.entries, Holder s p.1

theorem isBuffered_eq {s s' : State} {o o' : Obj} (hc : s'.ctx = s.ctx) (hb : o'.buffered = o.buffered) :
    s'.isBuffered o' = s.isBuffered o := by
  simp [State.isBuffered, hc, hb]

/-- objects' (file, counter) and the context counter determine who is buffered -/
theorem obj_transfer {s s' : State} (hc : s'.ctx = s.ctx)
    (hm : s'.objs.map (fun o => (o.res, o.buffered)) = s.objs.map (fun o => (o.res, o.buffered)))
    {oi : Nat} {o : Obj} (ho : s.objs[oi]? = some o) :
    ∃ o', s'.objs[oi]? = some o' ∧ o'.res = o.res ∧ o'.buffered = o.buffered ∧
      s'.isBuffered o' = s.isBuffered o := by
  have hm := congrArg (fun l => l[oi]?) hm
  simp only [List.getElem?_map, ho, Option.map_some, Option.map_eq_some_iff, Prod.mk.injEq] at hm
  obtain ⟨o', ho', hr, hb⟩ := hm
  exact ⟨o', ho', hr, hb, isBuffered_eq hc hb⟩

theorem due_frame {s s' : State} (hf : Frame s s') {oi : Nat} {o : Obj} (ho : s.objs[oi]? = some o) (force : Bool) :
    ∃ o', s'.objs[oi]? = some o' ∧ o'.res = o.res ∧ due s' o' force = due s o force ∧
      s'.isBuffered o' = s.isBuffered o := by
  obtain ⟨o', ho', hr, _, hib⟩ := obj_transfer hf.ctx hf.objs ho
  exact ⟨o', ho', hr, by simp [due, hib], hib⟩

theorem stays_frame {s s' : State} (hf : Frame s s') (force retain : Bool) (oi : Nat) :
    keeps s' force retain oi = keeps s force retain oi := by
  unfold keeps
  cases ho : s.objs[oi]? with
  | none =>
    cases ho' : s'.objs[oi]? with
    | none => rfl
    | some o' =>
      obtain ⟨o, h, _⟩ := obj_transfer hf.ctx.symm hf.objs.symm ho'
      rw [ho] at h; cases h
  | some o =>
    obtain ⟨o', ho', _, _, hib⟩ := obj_transfer hf.ctx hf.objs ho
    simp [ho', hib]

def Unmod (r : Nat) (s : State) : Prop := ∀ p ∈ s.entries, p.1 = r → p.2.modified = false
def Evolves (s s' : State) : Prop := ∀ p ∈ s'.entries, p ∈ s.entries ∨ p.2.modified = false

theorem Evolves.refl (s : State) : Evolves s s := fun _ hp => Or.inl hp
theorem Evolves.trans {a b c : State} (h1 : Evolves a b) (h2 : Evolves b c) : Evolves a c := by
  intro p hp
  rcases h2 p hp with h | h
  · exact h1 p h
  · exact Or.inr h

theorem Absent.of_frame {r : Nat} {s s' : State} (hf : Frame s s') (h : Absent r s) : Absent r s' := by
  intro p hp hpr
  obtain ⟨e0, he0⟩ := hf.sub p hp
  exact h (p.1, e0) he0 hpr

theorem Unmod.of_evolves {r : Nat} {s s' : State} (he : Evolves s s') (h : Unmod r s) : Unmod r s' := by
  intro p hp hpr
  rcases he p hp with h1 | h1
  · exact h p h1 hpr
  · exact h1

/-- what a round of the loop of `_flush_buffer` does to the state -/
def Flushes (s s' : State) : Prop := Frame s s' ∧ Evolves s s'

theorem Flushes.refl (s : State) : Flushes s s := ⟨.refl s, .refl s⟩
theorem Flushes.trans {a b c : State} (h1 : Flushes a b) (h2 : Flushes b c) : Flushes a c :=
  ⟨h1.1.trans h2.1, h1.2.trans h2.2⟩

theorem Flushes.of_quiet {s s' : State} (h : Quiet s s') : Flushes s s' :=
  ⟨h.frame, fun _ hp => Or.inl (h.book.entries ▸ hp)⟩

/-- the update of the buffer as a round of the flush loop makes it: the entry goes, or an unmodified one
takes its place -/
theorem setBuf_facts {s' : State} {r n : Nat} {new : Option Entry}
    (hnew : ∀ e1, new = some e1 → e1.modified = false ∧ ∃ e0, (r, e0) ∈ s'.entries) :
    Flushes s' (setBuf s' r new n) ∧ (new = none → Absent r (setBuf s' r new n)) ∧
    Unmod r (setBuf s' r new n) := by
  refine ⟨⟨⟨rfl, rfl, fun p hp => ?_, rfl, rfl⟩, fun p hp => ?_⟩, fun hn p hp hpr => ?_, fun p hp hpr => ?_⟩ <;>
    rcases mem_setBuf.mp hp with ⟨hr, hs⟩ | h
  · exact hr ▸ (hnew _ hs).2
  · exact ⟨p.2, h.1⟩
  · exact Or.inr (hnew _ hs).1
  · exact Or.inl h.1
  · cases hn ▸ hs
  · exact h.2 hpr
  · exact (hnew _ hs).1
  · exact absurd hpr h.2

/-- the flush of one object is framed, and entries only go or become unmodified; if it was due, the
object's file has left the buffer (serialized, or not forced) or is there unmodified (shared
memory, forced) -/
theorem flushOne_facts (s : State) (oi : Nat) (force : Bool) (o : Obj) (ho : s.objs[oi]? = some o)
    (hst : s.strategy ≠ .none) :
    Frame s (flushOne s oi force).1 ∧ Evolves s (flushOne s oi force).1 ∧
    (due s o force = true → (s.strategy = .serialized ∨ force = false) → Absent o.res (flushOne s oi force).1) ∧
    (due s o force = true → s.strategy = .sharedMemory → force = true → Unmod o.res (flushOne s oi force).1) := by
  rcases flushOne_cases s oi force with ⟨hq, _, hnone⟩ | ⟨o', e, s', new, ho', _, he, hq, _, hgo, hnew, heq⟩
  · have ha : due s o force = true → Absent o.res (flushOne s oi force).1 := fun hd =>
      .of_frame hq.frame (entry_eq_none.mp (hnone o ho hd hst))
    exact ⟨hq.frame, (Flushes.of_quiet hq).2, fun hd _ => ha hd, fun hd _ _ p hp hpr => absurd hpr (ha hd p hp)⟩
  · cases ho.symm.trans ho'
    rw [heq]
    have hf := setBuf_facts (s' := s') (r := o.res) (n := s'.size - weight s.strategy s.flen e) (new := new)
      fun e1 h1 => ⟨(hnew e1 h1).1, e, hq.book.entries ▸ entry_mem he⟩
    have hfl := (Flushes.of_quiet hq).trans hf.1
    exact ⟨hfl.1, hfl.2, fun _ h => hf.2.1 (hgo h), fun _ _ _ => hf.2.2⟩

/-- the loop of `_flush_buffer`, by induction over the registry: it is framed, entries only go or
become unmodified, the file of every object of `order` whose flush was due has left the buffer or
is there unmodified (as in `flushOne_facts`), and exactly the objects picked by `keeps` stay
registered: those still buffered, or all of them for a retaining forced flush -/
theorem flushBufferLoop_facts (force retain : Bool) (order : List Nat) :
    ∀ (s : State) (remaining issues : List Nat), s.strategy ≠ .none →
      let R := flushBufferLoop force retain order s remaining issues
      Frame s R.1 ∧ Evolves s R.1 ∧
      (∀ oi ∈ order, ∀ o, s.objs[oi]? = some o → due s o force = true →
        ((s.strategy = .serialized ∨ force = false) → Absent o.res R.1) ∧
        (s.strategy = .sharedMemory → force = true → Unmod o.res R.1)) ∧
      R.2.1 = remaining ++ order.filter (keeps s force retain) := by
  induction order with
  | nil =>
    intro s remaining issues _
    exact ⟨.refl s, .refl s, nofun, (List.append_nil _).symm⟩
  | cons oi rest ih =>
    intro s remaining issues hst
    obtain ⟨issues', hcons⟩ := flushBufferLoop_cons force retain oi rest s remaining issues
    simp only [hcons]
    have hstep : Flushes s (loopStep s force oi) ∧
        ∀ o, s.objs[oi]? = some o → due s o force = true →
          ((s.strategy = .serialized ∨ force = false) → Absent o.res (loopStep s force oi)) ∧
          (s.strategy = .sharedMemory → force = true → Unmod o.res (loopStep s force oi)) := by
      unfold loopStep
      cases ho : s.objs[oi]? with
      | none => exact ⟨Flushes.refl s, nofun⟩
      | some o =>
        simp only
        split
        · have := flushOne_facts s oi force o ho hst
          exact ⟨⟨this.1, this.2.1⟩, fun _ h hd => by cases h; exact ⟨this.2.2.1 hd, this.2.2.2 hd⟩⟩
        · exact ⟨Flushes.refl s, fun _ h hd => by cases h; exact absurd hd ‹_›⟩
    obtain ⟨⟨f1, e1⟩, a1⟩ := hstep
    obtain ⟨f2, e2, a2, r2⟩ := ih (loopStep s force oi) _ issues' (f1.strat ▸ hst)
    refine ⟨f1.trans f2, e1.trans e2, fun oj hoj o2 hoo hd => ?_, ?_⟩
    · rcases List.mem_cons.mp hoj with rfl | hm
      · exact ⟨fun h => ((a1 o2 hoo hd).1 h).of_frame f2, fun h1 h2 => ((a1 o2 hoo hd).2 h1 h2).of_evolves e2⟩
      · obtain ⟨o2', ho2', hr2, hd2, _⟩ := due_frame f1 hoo force
        have := a2 oj hm o2' ho2' (hd2.trans hd)
        rwa [hr2, f1.strat] at this
    · rw [r2, List.filter_congr (fun x _ => stays_frame f1 force retain x), List.filter_cons]
      split <;> simp

/-- holders survive: registered stay registered, objects keep their file, buffered stay buffered -/
structure Mono (s s' : State) : Prop where
  reg : ∀ x ∈ s.registry, x ∈ s'.registry
  obj : ∀ (oi : Nat) (o : Obj), s.objs[oi]? = some o →
    ∃ o' : Obj, s'.objs[oi]? = some o' ∧ o'.res = o.res ∧ (s.isBuffered o = true → s'.isBuffered o' = true)

theorem Mono.refl (s : State) : Mono s s := ⟨fun _ h => h, fun _ o h => ⟨o, h, rfl, id⟩⟩
theorem Mono.trans {a b c : State} (h1 : Mono a b) (h2 : Mono b c) : Mono a c :=
  ⟨fun x hx => h2.reg x (h1.reg x hx), fun oi o ho => by
    obtain ⟨o1, ho1, hr1, hb1⟩ := h1.obj oi o ho
    obtain ⟨o2, ho2, hr2, hb2⟩ := h2.obj oi o1 ho1
    exact ⟨o2, ho2, hr2.trans hr1, fun h => hb2 (hb1 h)⟩⟩

theorem Mono.of_objs {s s' : State} (hc : s'.ctx = s.ctx)
    (hm : s'.objs.map (fun o => (o.res, o.buffered)) = s.objs.map (fun o => (o.res, o.buffered)))
    (hreg : ∀ x ∈ s.registry, x ∈ s'.registry) : Mono s s' :=
  ⟨hreg, fun oi o ho => by
    obtain ⟨o', ho', hr, _, hib⟩ := obj_transfer hc hm ho
    exact ⟨o', ho', hr, fun h => hib ▸ h⟩⟩

theorem Mono.of_frame {s s' : State} (hf : Frame s s') : Mono s s' :=
  .of_objs hf.ctx hf.objs fun _ hx => hf.reg ▸ hx

theorem holder_mono {s s' : State} (hm : Mono s s') {r : Nat} (h : Holder s r) : Holder s' r := by
  obtain ⟨oi, hreg, o, ho, hr, hb⟩ := h
  obtain ⟨o', ho', hr', hb'⟩ := hm.obj oi o ho
  exact ⟨oi, hm.reg oi hreg, o', ho', hr'.trans hr, hb' hb⟩

theorem Held.of_mono {s s' : State} (hsub : ∀ p ∈ s'.entries, ∃ e0, (p.1, e0) ∈ s.entries) (hm : Mono s s')
    (h : Held s) : Held s' := by
  intro p hp
  obtain ⟨e0, he0⟩ := hsub p hp
  exact holder_mono hm (h (p.1, e0) he0)

/-- every buffered file has a registered object bound to it (buffered or not) -/
def WHeld (s : State) : Prop :=
  ∀ p ∈ s.entries, ∃ h ∈ s.registry, ∃ o, s.objs[h]? = some o ∧ o.res = p.1

theorem Held.weak {s : State} (h : Held s) : WHeld s := by
  intro p hp
  obtain ⟨oi, hreg, o, ho, hr, _⟩ := h p hp
  exact ⟨oi, hreg, o, ho, hr⟩

theorem strategy_cases {s : State} (h : s.strategy ≠ .none) :
    s.strategy = .serialized ∨ s.strategy = .sharedMemory := by
  cases hs : s.strategy <;> simp_all

/-- the Boolean test of `keeps` (`a`: buffered, `b`: forced, `c`: retaining): not kept means the
flush was due and not retaining; kept means buffered, or forced and retaining -/
theorem stays_cases (a b c : Bool) :
    ((a && !b || b && c) = false → (!a || b) = true ∧ (b = true → c = false)) ∧
    ((a && !b || b && c) = true → a = true ∨ b = true ∧ c = true) := by
  decide +revert

/-- `_flush_buffer`: every file still in the buffer afterwards has a buffered, registered holder.
Needs only that every buffered file had a registered object (for a non-forced flush, and for a
forced serialized one) — objects that are no longer buffered get flushed, which removes their file. -/
theorem flushBuffer_held (s : State) (force : Bool) (hst : s.strategy ≠ .none)
    (hw : WHeld s) (hh : force = true → s.strategy = .sharedMemory → Held s) :
    Held (flushBuffer s force).1 := by
  rw [flushBuffer_fst]
  obtain ⟨f, _, facts, hrem⟩ := flushBufferLoop_facts force (s.strategy == .sharedMemory) s.registry.reverse
    { s with registry := [] } [] [] hst
  generalize flushBufferLoop force (s.strategy == .sharedMemory) s.registry.reverse
    { s with registry := [] } [] [] = L at f facts hrem ⊢
  intro p (hp : p ∈ L.1.entries)
  obtain ⟨e0, (he0 : (p.1, e0) ∈ s.entries)⟩ := f.sub p hp
  -- a registered object on the file; a buffered one when the flush is forced with retention
  obtain ⟨h, hreg, o, ho, hr, hbf⟩ : ∃ h ∈ s.registry, ∃ o : Obj, s.objs[h]? = some o ∧ o.res = p.1 ∧
      (force = true → s.strategy = .sharedMemory → s.isBuffered o = true) := by
    by_cases hfm : force = true ∧ s.strategy = .sharedMemory
    · obtain ⟨h, hreg, o, ho, hr, hb⟩ := hh hfm.1 hfm.2 (p.1, e0) he0
      exact ⟨h, hreg, o, ho, hr, fun _ _ => hb⟩
    · obtain ⟨h, hreg, o, ho, hr⟩ := hw (p.1, e0) he0
      exact ⟨h, hreg, o, ho, hr, fun h1 h2 => absurd ⟨h1, h2⟩ hfm⟩
  have hord : h ∈ s.registry.reverse := List.mem_reverse.mpr hreg
  obtain ⟨o', ho', hr', _, hib⟩ := due_frame f (s := { s with registry := [] }) ho force
  have hk : keeps { s with registry := [] } force (s.strategy == .sharedMemory) h =
      (s.isBuffered o && !force || force && s.strategy == .sharedMemory) := by
    simp only [keeps, show ({ s with registry := [] } : State).objs[h]? = some o from ho]; rfl
  cases hkeep : keeps { s with registry := [] } force (s.strategy == .sharedMemory) h
  · -- `h` was flushed and not retained: its file has left the buffer
    obtain ⟨hdue, hnr⟩ := (stays_cases ..).1 (hk ▸ hkeep)
    have hcase : s.strategy = .serialized ∨ force = false := by
      rcases strategy_cases hst with h1 | h1
      · exact Or.inl h1
      · refine Or.inr (Bool.eq_false_iff.mpr fun hf => ?_)
        simpa [h1] using hnr hf
    exact absurd (hr.symm ▸ rfl) ((facts h hord o ho hdue).1 hcase p hp)
  · -- `h` stays registered, and it is buffered
    have hin : h ∈ L.2.1 := by rw [hrem]; exact List.mem_filter.mpr ⟨hord, hkeep⟩
    refine ⟨h, List.mem_append_left _ hin, o', ho', hr'.trans hr, hib.trans ?_⟩
    rcases (stays_cases ..).2 (hk ▸ hkeep) with hb | ⟨hf, hc⟩
    · exact hb
    · exact hbf hf (by simpa using hc)

end SC.B
