/-
C17 (buffered) — read-only histories never touch the disk.
An entry is *clean* when the buffered copy is what was read (serialized: contents = hash;
shared memory: not modified).  If all entries are clean, every step that is not a mutating
call or an outside write keeps them clean and leaves every file's content, metadata and the
stamp counter exactly as they were.
-/
import SC.Lemmas.BufRel
namespace SC.B
open SC

def AllClean (s : State) : Prop := ∀ p ∈ s.entries, CleanE s.strategy p.2

/-- `s'` is reached from `s` by a step that cannot dirty anything: static parameters equal, and
if everything was clean it still is and the disk is untouched -/
def RO (s s' : State) : Prop :=
  s'.strategy = s.strategy ∧ (AllClean s → AllClean s' ∧ DiskSame s s')

theorem ro_composes : Composes RO where
  refl _ := ⟨rfl, fun h => ⟨h, rfl, rfl, rfl⟩⟩
  trans h1 h2 := ⟨h2.1.trans h1.1, fun h =>
    let ⟨hb, d1⟩ := h1.2 h
    let ⟨hc, d2⟩ := h2.2 hb
    ⟨hc, d2.1.trans d1.1, d2.2.1.trans d1.2.1, d2.2.2.trans d1.2.2⟩⟩

theorem RO.of_same {s s' : State} (hb : SameBook s s') (hd : DiskSame s s') : RO s s' :=
  ⟨hb.strategy, fun h => ⟨by unfold AllClean; rw [hb.entries, hb.strategy]; exact h, hd⟩⟩

theorem ro_sub {s X : State} (hsub : ∀ p ∈ X.entries, p ∈ s.entries) (hs : X.strategy = s.strategy)
    (h1 : X.stores = s.stores) (h2 : X.metas = s.metas) (h3 : X.stamp = s.stamp) : RO s X :=
  ⟨hs, fun h => ⟨by intro p hp; rw [hs]; exact h p (hsub p hp), h1, h2, h3⟩⟩

/-- the update of the buffer dirties nothing if the new entry, if any, is what was read -/
theorem ro_setBuf {s : State} {r n : Nat} {new : Option Entry} (hc : ∀ e1, new = some e1 → CleanE s.strategy e1) :
    RO s (setBuf s r new n) := by
  refine ⟨rfl, fun h => ⟨fun p hp => ?_, rfl, rfl, rfl⟩⟩
  rcases mem_setBuf.mp hp with ⟨_, hs⟩ | hmem
  · exact hc _ hs
  · exact h p hmem.1

theorem ro_flushOne (s : State) (oi : Nat) (force : Bool) : RO s (flushOne s oi force).1 := by
  rcases flushOne_cases s oi force with ⟨hq, hd, _⟩ | ⟨o, e, s', new, _, _, he, hq, hsame, _, hnew, heq⟩
  · exact .of_same hq.book hd
  · refine ⟨heq ▸ hq.book.strategy, fun hclean => ?_⟩
    -- the entry is what was read, so the write-back has done nothing
    cases hsame (hclean _ (entry_mem he))
    exact heq ▸ (ro_setBuf fun e1 h1 => by rw [(hnew e1 h1).2]; exact (hnew e1 h1).1).2 hclean

theorem flushSer_readonly (s : State) (oi : Nat) (o : Obj) (force : Bool) (e : Entry)
    (he : s.entry o.res = some e) (hm : Tr.same e.contents e.hash = true) :
    (flushSer s oi o force).2 = none ∧
    (flushSer s oi o force).1.stores = s.stores ∧ (flushSer s oi o force).1.metas = s.metas := by
  rw [flushSer_eq]
  split
  · rw [he]
    simp only [writeSer_clean s oi o hm]
    exact ⟨trivial, finSer_disk ..⟩
  · exact ⟨rfl, rfl, rfl⟩

theorem flushMem_readonly (s : State) (oi : Nat) (o : Obj) (force : Bool) (e : Entry)
    (he : s.entry o.res = some e) (hm : e.modified = false) :
    (flushMem s oi o force).2 = none ∧
    (flushMem s oi o force).1.stores = s.stores ∧ (flushMem s oi o force).1.metas = s.metas := by
  rw [flushMem_eq]
  split
  · rw [he]
    simp only [writeMem_clean s oi o hm]
    exact ⟨trivial, finMem_disk ..⟩
  · exact ⟨rfl, rfl, rfl⟩

theorem ro_carried : Carried RO where
  toComposes := ro_composes
  same := RO.of_same
  flushOne := ro_flushOne
  init s r e _ hc := ro_setBuf fun _ h => by cases h; exact hc

theorem ro_run (steps : List Step) : ∀ s : State, (∀ st ∈ steps, st.readOnly = true) → RO s (run s steps) :=
  fun s h => ro_carried.toComposes.run steps s fun st hst s => ro_carried.step s st (h st hst)

end SC.B
