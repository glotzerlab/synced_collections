/-
The L2 buffer machine (`SC/Buffer.lean`) taken apart: what the primitive updates leave alone,
the buffer's entries, and the composite functions (`flushSer`, `flushMem`, `flushBufferLoop`,
`flushBuffer`, `setCapacity`, `ensureEntry`, `load`, `save`, `call`, `exitCls`, `openObj`) written as
compositions of named parts, so that a fact about the parts can be carried through the machine
without unfolding it again.  (`flushOne`, `enterObj`, `exitObj`, `enterCls` are short enough to be
used as they are defined.)  Every change the machine makes to the buffer proper is one update,
`setBuf` (the entry of a file becomes this, the size that), whatever the strategy; the `finally` clauses
of the flushes and the buffer inserts of load and save are given in that form.
-/
import SC.Buffer
namespace SC.B
open SC

/-- the part of the state the buffer bookkeeping and the disk consist of -/
structure Core where
  stores : List (Nat × J)
  metas : List (Nat × Meta)
  stamp : Nat
  entries : List (Nat × Entry)
  size : Nat
  capacity : Nat
  capStack : List (Option Nat)
  ctx : Nat
  registry : List Nat
  strategy : Buffering
  flen : List ((Int × Nat) × Nat)

def State.core (s : State) : Core :=
  ⟨s.stores, s.metas, s.stamp, s.entries, s.size, s.capacity, s.capStack, s.ctx, s.registry,
   s.strategy, s.flen⟩

theorem core_eq {s s' : State} (h : s'.core = s.core) :
    s'.stores = s.stores ∧ s'.metas = s.metas ∧ s'.stamp = s.stamp ∧ s'.entries = s.entries ∧
    s'.size = s.size ∧ s'.capacity = s.capacity ∧ s'.capStack = s.capStack ∧ s'.ctx = s.ctx ∧
    s'.registry = s.registry ∧ s'.strategy = s.strategy ∧ s'.flen = s.flen := by
  simp only [State.core, Core.mk.injEq] at h
  exact h

namespace State

theorem own_eq (s : State) (a lo hi : Nat) :
    s.own a lo hi =
      { s with owners := if lo < hi then s.owners ++ [(a, lo, hi)] else s.owners, next := hi } := by
  unfold own; split <;> rfl

theorem register_eq (s : State) (i : Nat) :
    s.register i =
      { s with registry := if s.registry.contains i then s.registry else s.registry ++ [i] } := by
  unfold register; split <;> rfl

@[simp] theorem setCell_core (s : State) (c : Nat) (t : T) : (s.setCell c t).core = s.core := rfl
@[simp] theorem setObj_core (s : State) (i : Nat) (o : Obj) : (s.setObj i o).core = s.core := rfl
@[simp] theorem syncFrom_core (s : State) (c : Nat) : (s.syncFrom c).core = s.core := rfl
@[simp] theorem syncFrom_fam (s : State) (c : Nat) : (s.syncFrom c).fam = s.fam := rfl
@[simp] theorem own_core (s : State) (a b c : Nat) : (s.own a b c).core = s.core := by
  rw [own_eq]; rfl
@[simp] theorem addDetached_core (s : State) (i : Nat) (ts : List T) :
    (s.addDetached i ts).core = s.core := rfl
@[simp] theorem setObj_fam (s : State) (i : Nat) (o : Obj) : (s.setObj i o).fam = s.fam := rfl
@[simp] theorem setEntry_disk (s : State) (r : Nat) (e : Entry) :
    (s.setEntry r e).stores = s.stores ∧ (s.setEntry r e).metas = s.metas := ⟨rfl, rfl⟩

@[simp] theorem register_strategy (s : State) (i : Nat) : (s.register i).strategy = s.strategy := by
  rw [register_eq]
@[simp] theorem register_entries (s : State) (i : Nat) : (s.register i).entries = s.entries := by
  rw [register_eq]
@[simp] theorem register_size (s : State) (i : Nat) : (s.register i).size = s.size := by rw [register_eq]
@[simp] theorem register_flen (s : State) (i : Nat) : (s.register i).flen = s.flen := by rw [register_eq]

@[simp] theorem own_objs (s : State) (a b c : Nat) : (s.own a b c).objs = s.objs := by rw [own_eq]
@[simp] theorem own_cells (s : State) (a b c : Nat) : (s.own a b c).cells = s.cells := by rw [own_eq]
@[simp] theorem own_failing (s : State) (a b c : Nat) : (s.own a b c).failing = s.failing := by
  rw [own_eq]

end State

@[simp] theorem mergeInto_core (s : State) (oi : Nat) (o : Obj) (d : J) :
    (mergeInto s oi o d).1.core = s.core := by
  simp [mergeInto]

@[simp] theorem mergeInto_objs (s : State) (oi : Nat) (o : Obj) (d : J) :
    (mergeInto s oi o d).1.objs = s.objs := by
  simp only [mergeInto, State.addDetached, State.own_objs, State.syncFrom, State.setCell]

@[simp] theorem mergeInto_failing (s : State) (oi : Nat) (o : Obj) (d : J) :
    (mergeInto s oi o d).1.failing = s.failing := by
  simp only [mergeInto, State.addDetached, State.own_failing, State.syncFrom, State.setCell]

theorem find_upsert {β : Type} (l : List (Nat × β)) (c : Nat) (t : β) :
    (if l.any (·.1 = c) then l.map (fun p => if p.1 = c then (c, t) else p) else l ++ [(c, t)]).find?
      (·.1 = c) = some (c, t) := by
  induction l with
  | nil => simp
  | cons q qs ih =>
    by_cases hq : q.1 = c
    · simp [hq]
    · have hd : decide (q.1 = c) = false := by simpa using hq
      rw [List.any_cons, hd, Bool.false_or]
      split at ih <;> rename_i h
      · rw [if_pos h, List.map_cons, if_neg hq, List.find?_cons_of_neg (by simpa using hq), ih]
      · rw [if_neg h, List.cons_append, List.find?_cons_of_neg (by simpa using hq), ih]

theorem cellData_setCell (s : State) (c : Nat) (t : T) : (s.setCell c t).cellData c = t := by
  simp only [State.setCell, State.cellData, find_upsert, Option.map_some, Option.getD_some]

theorem find_map_other (c : Nat) (g : Nat × T → Nat × T) (hg : ∀ p, (g p).1 = p.1)
    (hc : ∀ p, p.1 = c → g p = p) (l : List (Nat × T)) :
    (l.map g).find? (·.1 = c) = l.find? (·.1 = c) := by
  induction l with
  | nil => rfl
  | cons q qs ih =>
    simp only [List.map_cons, List.find?_cons, hg]
    by_cases hq : q.1 = c
    · simp [hq, hc q hq]
    · simp only [hq, decide_false, ih]

theorem cellData_syncFrom (s : State) (c : Nat) : (s.syncFrom c).cellData c = s.cellData c := by
  unfold State.syncFrom State.cellData
  rw [find_map_other c _ (fun p => by split <;> rfl) (fun p hp => by simp [hp])]

theorem mergeInto_root (s : State) (oi : Nat) (o : Obj) (d : J) :
    (mergeInto s oi o d).1.root o = (updNode s.fam (s.root o) d s.next).val := by
  simp only [mergeInto, State.root, State.cellData, State.addDetached, State.own_cells]
  exact (cellData_syncFrom _ _).trans (cellData_setCell _ _ _)

/-- "file `r` is not in the buffer" -/
def Absent (r : Nat) (s : State) : Prop := ∀ p ∈ s.entries, p.1 ≠ r

theorem mem_setEntry {s : State} {r : Nat} {e : Entry} {p : Nat × Entry} :
    p ∈ (s.setEntry r e).entries ↔ p = (r, e) ∨ (p ∈ s.entries ∧ p.1 ≠ r) := by
  unfold State.setEntry
  split
  · rename_i h
    obtain ⟨q, hq, hqr⟩ := List.any_eq_true.mp h
    simp only [decide_eq_true_eq] at hqr
    simp only [List.mem_map]
    constructor
    · rintro ⟨x, hx, rfl⟩
      by_cases hxr : x.1 = r <;> simp [hxr, hx]
    · rintro (rfl | ⟨hp, hpr⟩)
      · exact ⟨q, hq, by simp [hqr]⟩
      · exact ⟨p, hp, by simp [hpr]⟩
  · rename_i h
    simp only [List.any_eq_true, decide_eq_true_eq, not_exists, not_and] at h
    simp only [List.mem_append, List.mem_singleton]
    constructor
    · rintro (hp | rfl)
      · exact Or.inr ⟨hp, h p hp⟩
      · exact Or.inl rfl
    · rintro (rfl | ⟨hp, _⟩)
      · exact Or.inr rfl
      · exact Or.inl hp

theorem mem_delEntry {s : State} {r : Nat} {p : Nat × Entry} :
    p ∈ (s.delEntry r).entries ↔ p ∈ s.entries ∧ p.1 ≠ r := by
  simp [State.delEntry]

theorem entry_setEntry (s : State) (r : Nat) (e : Entry) : (s.setEntry r e).entry r = some e := by
  simp only [State.setEntry, State.entry, find_upsert, Option.map_some]

theorem entry_delEntry (s : State) (r : Nat) : (s.delEntry r).entry r = none := by
  simp [State.entry, State.delEntry, List.find?_eq_none]

theorem entry_mem {s : State} {r : Nat} {e : Entry} (h : s.entry r = some e) : (r, e) ∈ s.entries := by
  obtain ⟨p, hf, rfl⟩ := Option.map_eq_some_iff.mp h
  have := List.find?_some hf
  simp only [decide_eq_true_eq] at this
  exact this ▸ List.mem_of_find?_eq_some hf

theorem entry_eq_none {s : State} {r : Nat} : s.entry r = none ↔ Absent r s := by
  simp [State.entry, Absent]

/-! ### the buffer proper, whatever the strategy

What an entry counts for in the size (`weight`), when it is what was read (`CleanE`), and the one update
(`setBuf`; its instances: `finSer_eq`, `finMem_eq`, `initEntry_eq`, `saveSer_eq`, `saveMem_eq`), so a
relation needs one fact about `setBuf` and none about the strategies. -/

def weight (st : Buffering) (fl : List ((Int × Nat) × Nat)) (e : Entry) : Nat :=
  match st with
  | .serialized => encLen fl e.contents
  | .sharedMemory => if e.modified then 1 else 0
  | .none => 0

def weight? (st : Buffering) (fl : List ((Int × Nat) × Nat)) : Option Entry → Nat
  | none => 0
  | some e => weight st fl e

def CleanE (st : Buffering) (e : Entry) : Prop :=
  match st with
  | .serialized => Tr.same e.contents e.hash = true
  | .sharedMemory => e.modified = false
  | .none => True

mutual
theorem same_refl {ι : Type} : ∀ t : Tr ι, Tr.same t t = true
  | .leaf s => by simp [Tr.same]
  | .list i xs => by simp [Tr.same, sameL_refl xs]
  | .dict i kvs => by simp [Tr.same, sameKV_refl kvs]
theorem sameL_refl {ι : Type} : ∀ xs : List (Tr ι), Tr.sameL xs xs = true
  | [] => by simp [Tr.sameL]
  | x :: xs => by simp [Tr.sameL, same_refl x, sameL_refl xs]
theorem sameKV_refl {ι : Type} : ∀ kvs : List (Key × Tr ι), Tr.sameKV kvs kvs = true
  | [] => by simp [Tr.sameKV]
  | (k, v) :: kvs => by simp [Tr.sameKV, same_refl v, sameKV_refl kvs]
end

/-- only the serialized strategy counts an entry that is what was read -/
theorem weight_clean {st : Buffering} (fl : List ((Int × Nat) × Nat)) {e : Entry} (hs : st ≠ .serialized)
    (hc : CleanE st e) : weight st fl e = 0 := by
  cases st with
  | serialized => exact absurd rfl hs
  | sharedMemory => simp only [weight, show e.modified = false from hc]; rfl
  | none => rfl

/-- on `s'`, the entry of file `r` becomes `new` (`none`: it goes) and the size `n` -/
def setBuf (s' : State) (r : Nat) (new : Option Entry) (n : Nat) : State :=
  { s' with
    entries := match new with
      | some e => (s'.setEntry r e).entries
      | none => (s'.delEntry r).entries
    size := n }

theorem entry_setBuf (s' : State) (r : Nat) (new : Option Entry) (n : Nat) : (setBuf s' r new n).entry r = new := by
  cases new with
  | none => exact entry_delEntry s' r
  | some e => exact entry_setEntry s' r e

theorem mem_setBuf {s' : State} {r n : Nat} {new : Option Entry} {p : Nat × Entry} :
    p ∈ (setBuf s' r new n).entries ↔ (p.1 = r ∧ new = some p.2) ∨ (p ∈ s'.entries ∧ p.1 ≠ r) := by
  cases new with
  | none => exact mem_delEntry.trans ⟨Or.inr, fun h => h.resolve_left nofun⟩
  | some e =>
    refine mem_setEntry.trans (or_congr_left ⟨?_, ?_⟩)
    · rintro rfl; exact ⟨rfl, rfl⟩
    · rintro ⟨h1, h2⟩; cases h2; exact Prod.ext h1 rfl

/-- `p`, and then `g` on its state unless `p` raised: how the machine chains two steps -/
def andThen (p : State × Option Err) (g : State → State × Option Err) : State × Option Err :=
  match p.2 with
  | some e => (p.1, some e)
  | none => g p.1

theorem andThen_fst (C : State → Prop) {p : State × Option Err} {g : State → State × Option Err}
    (h1 : p.2 ≠ none → C p.1) (h2 : p.2 = none → C (g p.1).1) : C (andThen p g).1 := by
  unfold andThen
  split
  · rename_i h; exact h1 (by simp [h])
  · rename_i h; exact h2 h

/-- `if size > capacity: _flush_buffer(force=True)`, the check after a buffer insert -/
def overflow (s : State) : State × Option Err :=
  if s.size > s.capacity then flushBuffer s true else (s, none)

theorem setCapacity_eq (s : State) (n : Nat) : setCapacity s n = overflow { s with capacity := n } := rfl

/-- `self._update(self._load_from_resource())` -/
def reload (s : State) (oi : Nat) (o : Obj) : State × Option Err :=
  match loadFromResource s o with
  | none => (s, none)
  | some d => mergeInto s oi o d

@[simp] theorem reload_core (s : State) (oi : Nat) (o : Obj) : (reload s oi o).1.core = s.core := by
  unfold reload; split
  · rfl
  · exact mergeInto_core ..

/-- `not self._is_buffered or force`: the test under which `_flush` (either strategy) and the loop of
`_flush_buffer` do flush object `o` -/
def due (s : State) (o : Obj) (force : Bool) : Bool := !(s.isBuffered o) || force

/-- the `finally` clause of the serialized flush of entry `e`, on the state `s'` the write-back
left: the entry goes, the size no longer counts it -/
def finSer (s : State) (o : Obj) (e : Entry) (s' : State) : State :=
  { (s'.delEntry o.res) with size := s'.size - encLen s.flen e.contents }

theorem finSer_eq (s : State) (o : Obj) (e : Entry) (s' : State) :
    finSer s o e s' = setBuf s' o.res none (s'.size - weight .serialized s.flen e) := rfl

theorem finSer_disk (s : State) (o : Obj) (e : Entry) (s' : State) :
    (finSer s o e s').stores = s'.stores ∧ (finSer s o e s').metas = s'.metas := ⟨rfl, rfl⟩
theorem finSer_entry (s : State) (o : Obj) (e : Entry) (s' : State) : (finSer s o e s').entry o.res = none :=
  entry_delEntry s' o.res

/-- the write-back of the serialized flush of entry `e` -/
def writeSer (s : State) (oi : Nat) (o : Obj) (e : Entry) : State × Option Err :=
  if !(Tr.same e.contents e.hash) then
    if e.fmeta ≠ s.stat o.res then (s, some (.other "MetadataError"))
    else andThen (mergeInto s oi o e.contents) fun s1 => trySave s1 o
  else (s, none)

theorem writeSer_clean (s : State) (oi : Nat) (o : Obj) {e : Entry} (hm : Tr.same e.contents e.hash = true) :
    writeSer s oi o e = (s, none) := by
  rw [writeSer, hm]; rfl

theorem flushSer_eq (s : State) (oi : Nat) (o : Obj) (force : Bool) :
    flushSer s oi o force =
      if !(s.isBuffered o) || force then
        match s.entry o.res with
        | none => (s, none)
        | some e => (finSer s o e (writeSer s oi o e).1, (writeSer s oi o e).2)
      else (s, none) := by
  unfold flushSer
  -- `by_cases` and `rw` throughout: `split` on terms of this size is slow
  by_cases hd : (!s.isBuffered o || force) = true
  · rw [if_pos hd, if_pos hd]
    cases s.entry o.res with
    | none => rfl
    | some e =>
      simp only [writeSer, andThen]
      by_cases hm : (!Tr.same e.contents e.hash) = true
      · rw [if_pos hm, if_pos hm]
        by_cases hc : e.fmeta ≠ s.stat o.res
        · rw [if_pos hc, if_pos hc]
          rfl
        · rw [if_neg hc, if_neg hc]
          cases mergeInto s oi o e.contents with
          | mk s1 err => cases err <;> rfl
      · rw [if_neg hm, if_neg hm]
        rfl
  · rw [if_neg hd, if_neg hd]

/-- the `finally` clause of the shared-memory flush of entry `e` of file `r`, on the state `s'` the
write-back left; a forced flush keeps the entry, as `e'` -/
def finMem (force : Bool) (r : Nat) (e e' : Entry) (s' : State) : State :=
  { s' with
    entries := if force then (s'.setEntry r { e' with modified := false }).entries
      else (s'.delEntry r).entries
    size := s'.size - if e.modified then 1 else 0 }

theorem finMem_eq (fl : List ((Int × Nat) × Nat)) (force : Bool) (r : Nat) (e e' : Entry) (s' : State) :
    finMem force r e e' s' =
      setBuf s' r (if force then some { e' with modified := false } else none) (s'.size - weight .sharedMemory fl e) := by
  cases force <;> rfl

theorem finMem_disk (force : Bool) (r : Nat) (e e' : Entry) (s' : State) :
    (finMem force r e e' s').stores = s'.stores ∧ (finMem force r e e' s').metas = s'.metas := ⟨rfl, rfl⟩

/-- the write-back of the shared-memory flush of entry `e` -/
def writeMem (s : State) (oi : Nat) (o : Obj) (e : Entry) : State × Option Err :=
  if e.modified then
    if e.fmeta ≠ s.stat o.res then (s, some (.other "MetadataError"))
    else trySave (s.setObj oi { o with cell := e.cell }) { o with cell := e.cell }
  else (s, none)

theorem writeMem_clean (s : State) (oi : Nat) (o : Obj) {e : Entry} (hm : e.modified = false) :
    writeMem s oi o e = (s, none) := by
  rw [writeMem, hm]; rfl

/-- a flush that is not due: the object stops sharing the buffered container -/
def detach (s : State) (oi : Nat) (o : Obj) : State :=
  { (s.setCell s.nextCell (s.root o)) with nextCell := s.nextCell + 1 }.setObj oi
    { o with cell := s.nextCell }

@[simp] theorem detach_core (s : State) (oi : Nat) (o : Obj) : (detach s oi o).core = s.core := by
  rw [detach, State.setObj_core]; rfl

theorem flushMem_eq (s : State) (oi : Nat) (o : Obj) (force : Bool) :
    flushMem s oi o force =
      if !(s.isBuffered o) || force then
        match s.entry o.res with
        | none => if !force then reload s oi o else (s, none)
        | some e =>
          let p := writeMem s oi o e
          (finMem force o.res e
            (if force && e.modified && p.2.isNone then { e with fmeta := p.1.stat o.res } else e) p.1, p.2)
      else (detach s oi o, none) := by
  unfold flushMem writeMem finMem
  by_cases hd : (!s.isBuffered o || force) = true
  · rw [if_pos hd, if_pos hd]
    cases s.entry o.res with
    | none => rfl
    | some e =>
      simp only
      cases e.modified
      · cases force <;> rfl
      · simp only [if_true]
        by_cases hc : e.fmeta ≠ s.stat o.res
        · rw [if_pos hc, if_pos hc]
          cases force <;> rfl
        · rw [if_neg hc, if_neg hc]
          cases trySave (s.setObj oi { o with cell := e.cell }) { o with cell := e.cell } with
          | mk s1 werr => cases werr <;> cases force <;> rfl
  · rw [if_neg hd, if_neg hd]
    rfl

/-- does the registered object `oi` stay registered after a flush of the buffer?  (Lemmas
`stays_frame`, `stays_cases`; the size relation `Keeps` is another matter.) -/
def keeps (s : State) (force retain : Bool) (oi : Nat) : Bool :=
  match s.objs[oi]? with
  | none => false
  | some o => (s.isBuffered o && !force) || (force && retain)

/-- one round of the loop of `_flush_buffer`, on the state: the flush of `oi` if it is due -/
def loopStep (s : State) (force : Bool) (oi : Nat) : State :=
  match s.objs[oi]? with
  | some o => if due s o force then (flushOne s oi force).1 else s
  | none => s

theorem flushBufferLoop_cons (force retain : Bool) (oi : Nat) (rest : List Nat) (s : State)
    (remaining issues : List Nat) :
    ∃ issues', flushBufferLoop force retain (oi :: rest) s remaining issues =
      flushBufferLoop force retain rest (loopStep s force oi)
        (if keeps s force retain oi then remaining ++ [oi] else remaining) issues' := by
  rw [flushBufferLoop]
  unfold loopStep keeps
  cases s.objs[oi]? with
  | none => exact ⟨issues, rfl⟩
  | some o =>
    have hd : due s o force = !(s.isBuffered o && !force) := by simp [due]
    simp only [hd]
    generalize flushOne s oi force = p
    by_cases hk : (s.isBuffered o && !force) = true
    · simp only [hk, if_true, Bool.true_or, Bool.not_true, Bool.false_eq_true, if_false]
      exact ⟨issues, rfl⟩
    · rw [if_neg hk]
      simp only [Bool.eq_false_iff.mpr hk, Bool.false_or, Bool.not_false, if_true]
      split <;> exact ⟨_, rfl⟩

theorem flushBuffer_fst (s : State) (force : Bool) :
    (flushBuffer s force).1 =
      let L := flushBufferLoop force (s.strategy == .sharedMemory) s.registry.reverse
        { s with registry := [] } [] []
      { L.1 with registry := L.2.1 ++ L.1.registry.filter (fun x => !L.2.1.contains x) } := by
  unfold flushBuffer
  simp only
  split <;> rfl

theorem ensureEntry_eq (s : State) (oi : Nat) (o : Obj) :
    ensureEntry s oi o =
      andThen
        (if (s.entry o.res).isSome then (s, none) else
          andThen (reload s oi o) fun s1 =>
            match s.strategy with
            | .serialized => (initEntrySer s1 o, none)
            | _ => (initEntryMem s1 o false, none))
        fun s1 => (s1.register oi, none) := by
  -- `by rfl`: a theorem that is `:= rfl` is also marked for `dsimp`, and Lean checks the equation again
  -- for that, which for an equation of this size doubles the cost
  rfl

/-- the entry a first buffered access puts into the buffer is what was read, and is counted as such -/
theorem initEntry_eq (st : Buffering) (s1 : State) (o : Obj) :
    ∃ e, CleanE st e ∧
      (match st with
        | .serialized => initEntrySer s1 o
        | _ => initEntryMem s1 o false) = setBuf s1 o.res (some e) (s1.size + weight st s1.flen e) := by
  cases st with
  | serialized => exact ⟨⟨(s1.root o).toBase, (s1.root o).toBase, s1.stat o.res, o.cell, false⟩, same_refl _, rfl⟩
  | sharedMemory => exact ⟨⟨.leaf .null, .leaf .null, s1.stat o.res, o.cell, false⟩, rfl, rfl⟩
  | none => exact ⟨⟨.leaf .null, .leaf .null, s1.stat o.res, o.cell, false⟩, trivial, rfl⟩

theorem ensureEntry_cases (s : State) (oi : Nat) (o : Obj) :
    ((s.entry o.res).isSome = true ∧ ensureEntry s oi o = (s.register oi, none)) ∨
    (s.entry o.res = none ∧ (reload s oi o).2 ≠ none ∧ ensureEntry s oi o = reload s oi o) ∨
    (s.entry o.res = none ∧ (reload s oi o).2 = none ∧
      ∃ e, CleanE (reload s oi o).1.strategy e ∧ ensureEntry s oi o =
        ((setBuf (reload s oi o).1 o.res (some e) ((reload s oi o).1.size +
          weight (reload s oi o).1.strategy (reload s oi o).1.flen e)).register oi, none)) := by
  rw [ensureEntry_eq]
  have hst : (reload s oi o).1.strategy = s.strategy := congrArg Core.strategy (reload_core s oi o)
  rcases s.entry o.res with _ | e
  · right
    revert hst
    rcases reload s oi o with ⟨s1, _ | err⟩ <;> intro hst
    · obtain ⟨e, hc, heq⟩ := initEntry_eq s.strategy s1 o
      refine Or.inr ⟨rfl, rfl, e, hst ▸ hc, ?_⟩
      show _ = ((setBuf s1 o.res (some e) (s1.size + weight s1.strategy s1.flen e)).register oi, none)
      rw [hst, ← heq]
      cases s.strategy <;> rfl
    · exact Or.inl ⟨rfl, nofun, rfl⟩
  · exact Or.inl ⟨rfl, rfl⟩

theorem load_eq (s : State) (oi : Nat) :
    load s oi =
      match s.objs[oi]? with
      | none => (s, some (.other "NoSuchObject"))
      | some o =>
        if s.isBuffered o then
          match s.strategy with
          | .serialized =>
            andThen (ensureEntry s oi o) fun s1 =>
              match s1.entry o.res with
              | none => (s1, some (.other "KeyError"))
              | some e => andThen (overflow s1) fun s2 => mergeInto s2 oi o e.contents
          | .sharedMemory =>
            andThen (ensureEntry s oi o) fun s1 =>
              match s1.entry o.res with
              | none => (s1, some (.other "KeyError"))
              | some e => (s1.setObj oi { o with cell := e.cell }, none)
          | .none => (s, some (.other "NoStrategy"))
        else reload s oi o := by
  rfl

/-- the buffer insert of a serialized save (on the state in which the object is registered) -/
def saveSer (s0 : State) (o : Obj) : State :=
  match s0.entry o.res with
  | some e =>
    let blob := (s0.root o).toBase
    let s' := s0.setEntry o.res { e with contents := blob, hash := if e.fmeta.isNone then .leaf .null else e.hash }
    { s' with size := s'.size + encLen s0.flen blob - encLen s0.flen e.contents }
  | none =>
    let s' := initEntrySer s0 o
    match s'.entry o.res with
    | some e => s'.setEntry o.res { e with hash := (loadFromResource s' o).getD (.leaf .null) }
    | none => s'

/-- the buffer insert of a shared-memory save -/
def saveMem (s0 : State) (o : Obj) : State :=
  match s0.entry o.res with
  | some e =>
    let s' := if e.modified then s0 else { s0 with size := s0.size + 1 }
    s'.setEntry o.res { e with modified := true, cell := o.cell }
  | none => { (initEntryMem s0 o true) with size := s0.size + 1 }

theorem setEntry_setEntry (s : State) (r : Nat) (e1 e2 : Entry) :
    ((s.setEntry r e1).setEntry r e2).entries = (s.setEntry r e2).entries := by
  have hany : (s.setEntry r e1).entries.any (·.1 = r) = true :=
    List.any_eq_true.mpr ⟨(r, e1), mem_setEntry.mpr (Or.inl rfl), decide_eq_true rfl⟩
  rw [State.setEntry, if_pos hany]
  unfold State.setEntry
  split
  · rw [List.map_map]
    exact List.map_congr_left fun p _ => by by_cases h : p.1 = r <;> simp [h]
  · rename_i h
    simp only [List.any_eq_true, decide_eq_true_eq, not_exists, not_and] at h
    rw [List.map_append, List.map_congr_left (g := id) fun p hp => by simp [h p hp], List.map_id]
    simp

/-- the saved data become the entry of the object's file; the size counts them instead of what it counted for
the file before; the metadata recorded when the file entered the buffer stay -/
theorem saveSer_eq (s0 : State) (o : Obj) :
    ∃ e', e'.contents = (s0.root o).toBase ∧ (∀ e, s0.entry o.res = some e → e'.fmeta = e.fmeta) ∧
      saveSer s0 o = setBuf s0 o.res (some e')
        (s0.size + weight .serialized s0.flen e' - weight? .serialized s0.flen (s0.entry o.res)) := by
  unfold saveSer
  cases he : s0.entry o.res with
  | some e => exact ⟨{ e with contents := (s0.root o).toBase, hash := if e.fmeta.isNone then .leaf .null else e.hash },
      rfl, fun _ h => by cases h; rfl, rfl⟩
  | none =>
    simp only [show (initEntrySer s0 o).entry o.res = some _ from entry_setEntry _ _ _]
    refine ⟨⟨(s0.root o).toBase, (loadFromResource (initEntrySer s0 o) o).getD (.leaf .null), s0.stat o.res, o.cell,
      false⟩, rfl, nofun, ?_⟩
    show ({ s0 with entries := ((s0.setEntry o.res _).setEntry o.res _).entries, size := _ } : State) = _
    rw [setEntry_setEntry]
    rfl

theorem saveMem_eq (s0 : State) (o : Obj) :
    ∃ e' n, e'.cell = o.cell ∧ e'.modified = true ∧
      n + weight? .sharedMemory s0.flen (s0.entry o.res) = s0.size + 1 ∧
      saveMem s0 o = setBuf s0 o.res (some e') n := by
  unfold saveMem
  cases he : s0.entry o.res with
  | some e =>
    dsimp only
    cases hm : e.modified
    · exact ⟨{ e with modified := true, cell := o.cell }, s0.size + 1, rfl, rfl, by simp [weight?, weight, hm], rfl⟩
    · exact ⟨{ e with modified := true, cell := o.cell }, s0.size, rfl, rfl, by simp [weight?, weight, hm], rfl⟩
  | none => exact ⟨⟨.leaf .null, .leaf .null, s0.stat o.res, o.cell, true⟩, s0.size + 1, rfl, rfl, rfl, rfl⟩

theorem save_eq (s : State) (oi : Nat) :
    save s oi =
      match s.objs[oi]? with
      | none => (s, none)
      | some o =>
        if s.isBuffered o then
          match s.strategy with
          | .serialized => overflow (saveSer (s.register oi) o)
          | .sharedMemory => overflow (saveMem (s.register oi) o)
          | .none => (s.register oi, none)
        else trySave s o := by
  -- the model matches on the strategy of `s.register oi`, which is `s.strategy` only up to `rw`
  -- (`register` is an `if`); after that the two sides are the same term
  rw [← s.register_strategy oi]
  rfl

/-- how a save can go.  A buffered one registers the object, makes the saved data the entry `e'` of its
file, counted in place of what the file counted for before, and checks the capacity. -/
theorem save_cases (s : State) (oi : Nat) :
    save s oi = (s, none) ∨
    (∃ o, s.objs[oi]? = some o ∧ s.isBuffered o = false ∧ save s oi = trySave s o) ∨
    ∃ o, s.objs[oi]? = some o ∧ s.isBuffered o = true ∧
      (s.strategy = .none ∧ save s oi = (s.register oi, none) ∨
       ∃ e' n, save s oi = overflow (setBuf (s.register oi) o.res (some e') n) ∧
         (weight? s.strategy s.flen (s.entry o.res) ≤ s.size →
           n + weight? s.strategy s.flen (s.entry o.res) = s.size + weight s.strategy s.flen e')) := by
  rw [save_eq]
  cases ho : s.objs[oi]? with
  | none => exact Or.inl rfl
  | some o =>
    right
    dsimp only
    cases hb : s.isBuffered o with
    | false => exact Or.inl ⟨o, rfl, hb, rfl⟩
    | true =>
      refine Or.inr ⟨o, rfl, hb, ?_⟩
      have hent : (s.register oi).entry o.res = s.entry o.res := by rw [State.entry, State.register_entries]; rfl
      cases hs : s.strategy with
      | none => exact Or.inl ⟨rfl, rfl⟩
      | serialized =>
        obtain ⟨e', _, _, heq⟩ := saveSer_eq (s.register oi) o
        refine Or.inr ⟨e', _, congrArg overflow heq, fun h => ?_⟩
        rw [hent, State.register_size, State.register_flen]
        omega
      | sharedMemory =>
        obtain ⟨e', n, _, hm, hn, heq⟩ := saveMem_eq (s.register oi) o
        refine Or.inr ⟨e', n, congrArg overflow heq, fun _ => ?_⟩
        rw [hent, State.register_flen, State.register_size] at hn
        rw [hn, weight, hm]; rfl

/-- the load(s) before the body of a call: none for an overwrite of the root, two for the reads
of `Op.loadsTwice` -/
def loadPhase (s : State) (h : Handle) (oi : Nat) (isRoot : Bool) (op : Op) : State × Option Err :=
  if (op.isOverwrite && isRoot) || op.skipsLoad then (s, none)
  else andThen (load s oi) fun s1 =>
    match handleNode s1 h with
    | some t => if op.loadsTwice t then load s1 oi else (s1, none)
    | none => (s1, none)

/-- the result of the body goes into memory; the identities it drew belong to object `oi` -/
def memUpdate (s : State) (h : Handle) (oi : Nat) (r : NodeRes) : State :=
  ((putNode s h r.node).own oi s.next r.next).addDetached oi r.det

@[simp] theorem putNode_core (s : State) (h : Handle) (t : T) : (putNode s h t).core = s.core := by
  unfold putNode
  cases h with
  | root o =>
    simp only
    split
    · rw [State.syncFrom_core, State.setCell_core]
    · rfl
  | node id => rfl

@[simp] theorem memUpdate_core (s : State) (h : Handle) (oi : Nat) (r : NodeRes) :
    (memUpdate s h oi r).core = s.core := by
  simp [memUpdate]

@[simp] theorem putNode_objs (s : State) (h : Handle) (t : T) : (putNode s h t).objs = s.objs := by
  unfold putNode
  cases h with
  | root o => simp only; split <;> rfl
  | node id => rfl

@[simp] theorem memUpdate_objs (s : State) (h : Handle) (oi : Nat) (r : NodeRes) :
    (memUpdate s h oi r).objs = s.objs := by
  simp [memUpdate, State.addDetached]

/-- the body of a call on node `t`, and what follows it: the memory update and, unless the call is
a read, the save -/
def bodyPhase (fam : Fam) (s1 : State) (h : Handle) (oi : Nat) (t : T) (op : Op) : State × Option Err :=
  let s2 := memUpdate s1 h oi (runBody fam t op s1.next)
  if op.isRead then (s2, none) else save s2 oi

theorem call_eq (s : State) (h : Handle) (op : Op) :
    call s h op =
      match handleOwner s h, handleNode s h with
      | some (oi, isRoot), some t0 =>
        match preValidate s.fam t0.isDict op with
        | some e => (s, .error e)
        | none =>
          let p := loadPhase s h oi isRoot op
          match p.2 with
          | some e => (p.1, .error e)
          | none =>
            match handleNode p.1 h with
            | none => (p.1, .error (.other "LostNode"))
            | some t =>
              let r := runBody s.fam t op p.1.next
              let q := bodyPhase s.fam p.1 h oi t op
              match q.2 with
              | some e => (q.1, .error e)
              | none =>
                match r.err with
                | some e => (q.1, .error e)
                | none => (q.1, .ok r.out)
      | _, _ => (s, .error (.other "NoSuchHandle")) := by
  rfl

theorem call_fst (C : State → Prop) (s : State) (h : Handle) (op : Op) (h0 : C s)
    (h1 : ∀ oi isRoot, C (loadPhase s h oi isRoot op).1)
    (h2 : ∀ oi isRoot t, (loadPhase s h oi isRoot op).2 = none →
      C (bodyPhase s.fam (loadPhase s h oi isRoot op).1 h oi t op).1) :
    C (call s h op).1 := by
  rw [call_eq]
  split
  · split
    · exact h0
    · simp only
      split
      · exact h1 _ _
      · rename_i hp
        split
        · exact h1 _ _
        · split
          · exact h2 _ _ _ hp
          · split <;> exact h2 _ _ _ hp
  · exact h0

/-- the end of `exitCls`: the capacity stack is popped and a capacity saved there is put back -/
def popCap (s : State) : State × Option Err :=
  match s.capStack with
  | [] => (s, none)
  | none :: rest => ({ s with capStack := rest }, none)
  | some c :: rest => setCapacity { s with capStack := rest } c

theorem exitCls_fst (s : State) :
    (exitCls s).1 =
      (popCap (if s.ctx - 1 = 0 then flushBuffer { s with ctx := s.ctx - 1 } false
        else ({ s with ctx := s.ctx - 1 }, none)).1).1 := by
  unfold exitCls popCap
  simp only
  generalize (if s.ctx - 1 = 0 then flushBuffer { s with ctx := s.ctx - 1 } false
    else ({ s with ctx := s.ctx - 1 }, none)) = p
  rcases p.1.capStack with _ | ⟨_ | c, rest⟩ <;> rfl

/-- a new object: its own cell, holding `root`; the identities up to `next'` are its -/
def newObj (s : State) (isDict : Bool) (res : Nat) (root : T) (next' : Nat) : State :=
  (({ s with objs := s.objs ++ [(⟨isDict, res, s.nextCell, 0⟩ : Obj)], nextCell := s.nextCell + 1 }).setCell
    s.nextCell root).own s.objs.length s.next next'

@[simp] theorem newObj_core (s : State) (isDict : Bool) (res : Nat) (root : T) (next' : Nat) :
    (newObj s isDict res root next').core = s.core := by
  rw [newObj, State.own_core]; rfl

theorem openObj_fst (s : State) (isDict : Bool) (res : Nat) (data : Option J) :
    (openObj s isDict res data).1 = s ∨
    ∃ root next', (openObj s isDict res data).1 = newObj s isDict res root next' := by
  unfold openObj
  cases data with
  | none => exact Or.inr ⟨_, _, rfl⟩
  | some d =>
    simp only
    by_cases hb : (d.isDict ≠ isDict || d.isLeaf) = true
    · rw [if_pos hb]
      exact Or.inl rfl
    · rw [if_neg hb]
      cases validate (if isDict then s.fam.dictV else s.fam.listV) d with
      | some e => exact Or.inl rfl
      | none => exact Or.inr ⟨_, _, rfl⟩

end SC.B
