/-
Relations between a state `s` of the buffer machine and a later one `s'`.  `Composes`: a relation
that chains holds along the composite functions of the machine as soon as it holds along their
parts.  `Carried R`: a relation that also holds along every update leaving the book and the disk alone,
along the flush of one object and along the insertion of a clean entry holds along every read-only step.

The two-state relations of L2 — what `s'` has of `s`; where it is defined; what it is for:
* `SameBook`: entries, size, strategy, float lengths ("the book"); here; `SizeOK`, `AllClean` carry over.
* `DiskSame`: stores, metadata, stamp; here; with `SameBook` the hypothesis of `Carried.same`.
* `SameCap`: capacity, capacity stack, context counter; here; C07, the capacity put back.
* `Frame`: context counter, each object's file and `buffered`, strategy, registry, no new file in
  the buffer; here; who holds a file, across `flushOne`.
* `Quiet`: `SameBook`, `SameCap` and `Frame` (only memory, cells and disk differ); here; the merges
  and write-backs inside load and flush.
* `Keeps`: strategy, float lengths, and `SizeOK` if `s` had it; `BufSize`; C15 exact size (carried).
* `Shrinks`: `SameCap`, and the size has not grown; `BufCap`; every flush: C15 bound, C07 settings.
* `Evolves`: its entries are entries of `s` or unmodified; `BufHeld`; `Unmod` across a flush.
* `Flushes`: `Frame` and `Evolves`; `BufHeld`; one round of the loop of `_flush_buffer`.
* `Mono`: the registered stay registered, objects keep their file, the buffered stay buffered;
  `BufHeld`; holders survive (`Held.of_mono`).
* `Grow r`: `Frame`, but objects may get registered and entries for file `r` added; `BufBound`;
  `Held` across the buffer inserts of load and save.
* `RO`: strategy, and if all of `s` was clean, cleanness and `DiskSame`; `BufRead`; C17 (carried).
* `BufOnly`: everything but entries, size and registry; `BufVisible`; a buffered save that does not
  overflow (C05, C06).
-/
import SC.Lemmas.Buffer
namespace SC.B
open SC

/-- a relation between a state and a later one that chains.  The composite functions of the
machine only compose their parts, so such a relation holds along them as soon as it holds along
the parts; the lemmas below say so once for each composite function, for every such relation. -/
structure Composes (R : State → State → Prop) : Prop where
  refl : ∀ s, R s s
  trans : ∀ {a b c}, R a b → R b c → R a c

theorem Composes.of_pred (P : State → Prop) : Composes (fun s s' => P s → P s') :=
  ⟨fun _ h => h, fun h1 h2 h => h2 (h1 h)⟩

namespace Composes
variable {R : State → State → Prop} (hR : Composes R)
include hR

theorem andThen {s : State} {p : State × Option Err} {g : State → State × Option Err}
    (h1 : R s p.1) (h2 : R p.1 (g p.1).1) : R s (B.andThen p g).1 :=
  andThen_fst (R s) (fun _ => h1) (fun _ => hR.trans h1 h2)

theorem flushBufferLoop (hone : ∀ s oi force, R s (B.flushOne s oi force).1) (force retain : Bool)
    (order : List Nat) : ∀ (s : State) (remaining issues : List Nat),
      R s (B.flushBufferLoop force retain order s remaining issues).1 := by
  induction order with
  | nil => intro s _ _; exact hR.refl s
  | cons oi rest ih =>
    intro s remaining issues
    obtain ⟨issues', h⟩ := flushBufferLoop_cons force retain oi rest s remaining issues
    rw [h]
    refine hR.trans ?_ (ih _ _ _)
    unfold loopStep
    split
    · split
      · exact hone s oi force
      · exact hR.refl s
    · exact hR.refl s

theorem flushBuffer (hone : ∀ s oi force, R s (B.flushOne s oi force).1)
    (hreg : ∀ s l, R s { s with registry := l }) (s : State) (force : Bool) :
    R s (B.flushBuffer s force).1 := by
  rw [flushBuffer_fst]
  exact hR.trans (hR.trans (hreg s []) (hR.flushBufferLoop hone ..)) (hreg _ _)

theorem call (hload : ∀ s oi, R s (load s oi).1) (hmem : ∀ s h oi r, R s (memUpdate s h oi r))
    (s : State) (h : Handle) (op : Op) (hsave : op.isRead = false → ∀ s oi, R s (save s oi).1) :
    R s (B.call s h op).1 := by
  have hphase : ∀ oi isRoot, R s (loadPhase s h oi isRoot op).1 := by
    intro oi isRoot
    unfold loadPhase
    split
    · exact hR.refl s
    · refine hR.andThen (hload s oi) ?_
      split
      · split
        · exact hload _ oi
        · exact hR.refl _
      · exact hR.refl _
  have hbody : ∀ s1 oi t, R s1 (bodyPhase s.fam s1 h oi t op).1 := by
    intro s1 oi t
    unfold bodyPhase
    split
    · exact hmem ..
    · rename_i hr; exact hR.trans (hmem ..) (hsave (by simpa using hr) _ oi)
  exact call_fst (R s) s h op (hR.refl s) hphase fun oi isRoot t _ =>
    hR.trans (hphase oi isRoot) (hbody ..)

theorem run (steps : List Step) (s : State) (h : ∀ st ∈ steps, ∀ s, R s (step s st)) : R s (B.run s steps) :=
  List.foldlRecOn steps step (hR.refl s) fun x hx st hst => hR.trans hx (h st hst x)

end Composes

/-- `s'` has the same buffer bookkeeping as `s` (disk and memory may differ) -/
def SameBook (s s' : State) : Prop :=
  s'.entries = s.entries ∧ s'.size = s.size ∧ s'.strategy = s.strategy ∧ s'.flen = s.flen

theorem SameBook.entries {s s' : State} (h : SameBook s s') : s'.entries = s.entries := h.1
theorem SameBook.size {s s' : State} (h : SameBook s s') : s'.size = s.size := h.2.1
theorem SameBook.strategy {s s' : State} (h : SameBook s s') : s'.strategy = s.strategy := h.2.2.1
theorem SameBook.flen {s s' : State} (h : SameBook s s') : s'.flen = s.flen := h.2.2.2
theorem SameBook.refl (s : State) : SameBook s s := ⟨rfl, rfl, rfl, rfl⟩
theorem SameBook.trans {a b c : State} (h1 : SameBook a b) (h2 : SameBook b c) : SameBook a c :=
  ⟨h2.1.trans h1.1, h2.2.1.trans h1.2.1, h2.2.2.1.trans h1.2.2.1, h2.2.2.2.trans h1.2.2.2⟩
theorem SameBook.of_core {s s' : State} (h : s'.core = s.core) : SameBook s s' :=
  ⟨congrArg Core.entries h, congrArg Core.size h, congrArg Core.strategy h, congrArg Core.flen h⟩

theorem sameBook_writeFile (s : State) (r : Nat) (d : J) : SameBook s (s.writeFile r d) :=
  ⟨rfl, rfl, rfl, rfl⟩
theorem sameBook_setCell (s : State) (i : Nat) (t : T) : SameBook s (s.setCell i t) :=
  ⟨rfl, rfl, rfl, rfl⟩

/-- the settings — registry, capacity, capacity stack, context counter — are not in the book; a use
names the ones it changes: `.of_settings s (ctx := s.ctx - 1)` -/
theorem SameBook.of_settings (s : State) (registry := s.registry) (capacity := s.capacity)
    (capStack := s.capStack) (ctx := s.ctx) : SameBook s { s with registry, capacity, capStack, ctx } :=
  ⟨rfl, rfl, rfl, rfl⟩

theorem sameBook_register (s : State) (oi : Nat) : SameBook s (s.register oi) :=
  ⟨s.register_entries oi, s.register_size oi, s.register_strategy oi, s.register_flen oi⟩

theorem entry_of_sameBook {s s' : State} (hb : SameBook s s') (r : Nat) : s'.entry r = s.entry r := by
  simp [State.entry, hb.entries]

def DiskSame (s s' : State) : Prop := s'.stores = s.stores ∧ s'.metas = s.metas ∧ s'.stamp = s.stamp

theorem DiskSame.of_core {s s' : State} (h : s'.core = s.core) : DiskSame s s' :=
  ⟨(core_eq h).1, (core_eq h).2.1, (core_eq h).2.2.1⟩

def SameCap (s s' : State) : Prop :=
  s'.capacity = s.capacity ∧ s'.capStack = s.capStack ∧ s'.ctx = s.ctx

theorem SameCap.refl (s : State) : SameCap s s := ⟨rfl, rfl, rfl⟩
theorem SameCap.trans {a b c : State} (h1 : SameCap a b) (h2 : SameCap b c) : SameCap a c :=
  ⟨h2.1.trans h1.1, h2.2.1.trans h1.2.1, h2.2.2.trans h1.2.2⟩
theorem SameCap.of_core {s s' : State} (h : s'.core = s.core) : SameCap s s' :=
  ⟨congrArg Core.capacity h, congrArg Core.capStack h, congrArg Core.ctx h⟩

theorem sameCap_own (s : State) (a b c : Nat) : SameCap s (s.own a b c) := .of_core (s.own_core a b c)

/-- what the flush of one object (`flushOne`, hence every round of the loop of `_flush_buffer`)
leaves alone: context counter, every object's file and `buffered` counter (hence who is buffered),
strategy, registry; and it adds no entry.  Not for `flushBuffer`, which rewrites the registry. -/
structure Frame (s s' : State) : Prop where
  ctx : s'.ctx = s.ctx
  objs : s'.objs.map (fun o => (o.res, o.buffered)) = s.objs.map (fun o => (o.res, o.buffered))
  sub : ∀ p ∈ s'.entries, ∃ e0, (p.1, e0) ∈ s.entries
  strat : s'.strategy = s.strategy
  reg : s'.registry = s.registry

theorem Frame.refl (s : State) : Frame s s := ⟨rfl, rfl, fun p hp => ⟨p.2, hp⟩, rfl, rfl⟩
theorem Frame.trans {a b c : State} (h1 : Frame a b) (h2 : Frame b c) : Frame a c :=
  ⟨h2.ctx.trans h1.ctx, h2.objs.trans h1.objs,
   fun p hp => let ⟨e1, he1⟩ := h2.sub p hp; h1.sub (p.1, e1) he1, h2.strat.trans h1.strat,
   h2.reg.trans h1.reg⟩

theorem Frame.of_eq {s s' : State} (h1 : s'.ctx = s.ctx) (h2 : s'.objs = s.objs) (h3 : s'.entries = s.entries)
    (h4 : s'.strategy = s.strategy) (h5 : s'.registry = s.registry) : Frame s s' :=
  ⟨h1, by rw [h2], fun p hp => ⟨p.2, by rw [← h3]; exact hp⟩, h4, h5⟩

theorem map_set_same {α β : Type} (f : α → β) {l : List α} {i : Nat} {a a' : α}
    (h : l[i]? = some a) (hf : f a' = f a) : (l.set i a').map f = l.map f := by
  obtain ⟨hi, rfl⟩ := List.getElem?_eq_some_iff.mp h
  rw [List.map_set, hf, ← List.getElem_map f (h := by simpa using hi), List.set_getElem_self]

theorem frame_setObj {s : State} {oi : Nat} {o o' : Obj} (ho : s.objs[oi]? = some o)
    (hr : o'.res = o.res) (hb : o'.buffered = o.buffered) : Frame s (s.setObj oi o') :=
  ⟨rfl, map_set_same _ ho (by rw [hr, hb]), fun p hp => ⟨p.2, hp⟩, rfl, rfl⟩

/-- `s'` differs from `s` at most in the objects' memory, in which cell an object uses, and on
disk: buffer, settings, registry and who is buffered are the same -/
structure Quiet (s s' : State) : Prop where
  book : SameBook s s'
  cap : SameCap s s'
  frame : Frame s s'

theorem Quiet.refl (s : State) : Quiet s s := ⟨.refl s, .refl s, .refl s⟩
theorem Quiet.trans {a b c : State} (h1 : Quiet a b) (h2 : Quiet b c) : Quiet a c :=
  ⟨h1.book.trans h2.book, h1.cap.trans h2.cap, h1.frame.trans h2.frame⟩
theorem quiet_composes : Composes Quiet := ⟨Quiet.refl, Quiet.trans⟩

theorem Quiet.of_core {s s' : State} (h : s'.core = s.core) (ho : s'.objs = s.objs) : Quiet s s' :=
  ⟨.of_core h, .of_core h, .of_eq (congrArg Core.ctx h) ho (congrArg Core.entries h) (congrArg Core.strategy h)
    (congrArg Core.registry h)⟩

theorem Quiet.of_disk (s : State) (stores : List (Nat × J)) (metas : List (Nat × Meta)) (stamp : Nat)
    (failing : List Nat) : Quiet s { s with stores, metas, stamp, failing } :=
  ⟨⟨rfl, rfl, rfl, rfl⟩, ⟨rfl, rfl, rfl⟩, .of_eq rfl rfl rfl rfl rfl⟩

theorem quiet_mergeInto (s : State) (oi : Nat) (o : Obj) (d : J) : Quiet s (mergeInto s oi o d).1 :=
  .of_core (mergeInto_core ..) (mergeInto_objs ..)

theorem quiet_trySave (s : State) (o : Obj) : Quiet s (trySave s o).1 := by
  unfold trySave; split
  · exact Quiet.refl s
  · exact .of_disk ..

theorem quiet_setObj {s : State} {oi : Nat} {o o' : Obj} (ho : s.objs[oi]? = some o)
    (hr : o'.res = o.res) (hb : o'.buffered = o.buffered) : Quiet s (s.setObj oi o') :=
  ⟨⟨rfl, rfl, rfl, rfl⟩, ⟨rfl, rfl, rfl⟩, frame_setObj ho hr hb⟩

theorem quiet_writeSer (s : State) (oi : Nat) (o : Obj) (e : Entry) : Quiet s (writeSer s oi o e).1 := by
  unfold writeSer
  split
  · split
    · exact Quiet.refl s
    · exact quiet_composes.andThen (quiet_mergeInto ..) (quiet_trySave ..)
  · exact Quiet.refl s

theorem quiet_writeMem (s : State) (oi : Nat) (o : Obj) (e : Entry) (ho : s.objs[oi]? = some o) :
    Quiet s (writeMem s oi o e).1 := by
  unfold writeMem
  split
  · split
    · exact Quiet.refl s
    · exact (quiet_setObj (o' := { o with cell := e.cell }) ho rfl rfl).trans (quiet_trySave ..)
  · exact Quiet.refl s

theorem quiet_detach {s : State} {oi : Nat} {o : Obj} (ho : s.objs[oi]? = some o) : Quiet s (detach s oi o) :=
  Quiet.trans (b := { (s.setCell s.nextCell (s.root o)) with nextCell := s.nextCell + 1 })
    (.of_core rfl rfl) (quiet_setObj ho rfl rfl)

/-- the buffer bookkeeping is untouched by the write-back, whichever object does it -/
theorem sameBook_writeMem (s : State) (oi : Nat) (o : Obj) (e : Entry) : SameBook s (writeMem s oi o e).1 := by
  unfold writeMem
  split
  · split
    · exact SameBook.refl s
    · exact SameBook.trans (b := s.setObj oi { o with cell := e.cell }) ⟨rfl, rfl, rfl, rfl⟩ (quiet_trySave ..).book
  · exact SameBook.refl s

theorem quiet_reload (s : State) (oi : Nat) (o : Obj) : Quiet s (reload s oi o).1 := by
  unfold reload; split
  · exact Quiet.refl s
  · exact quiet_mergeInto ..

/-- what the flush of one object does, whatever the strategy.  Either there was nothing to flush and at
most memory has changed (a reload; the object has stopped sharing the buffered container).  Or the flush
was due and the object's file had the entry `e`: the write-back leaves `s'`, touching at most memory and
disk, and nothing at all if `e` is what was read; then the `finally` clause takes the entry out of the
buffer — a forced shared-memory flush leaves an unmodified entry in its place — and the size no longer
counts `e`. -/
theorem flushOne_cases (s : State) (oi : Nat) (force : Bool) :
    (Quiet s (flushOne s oi force).1 ∧ DiskSame s (flushOne s oi force).1 ∧
      ∀ o, s.objs[oi]? = some o → due s o force = true → s.strategy ≠ .none → s.entry o.res = none) ∨
    ∃ o e s' new, s.objs[oi]? = some o ∧ due s o force = true ∧ s.entry o.res = some e ∧
      Quiet s s' ∧ (CleanE s.strategy e → s' = s) ∧
      ((s.strategy = .serialized ∨ force = false) → new = none) ∧
      (∀ e1, new = some e1 → e1.modified = false ∧ s.strategy = .sharedMemory) ∧
      (flushOne s oi force).1 = setBuf s' o.res new (s'.size - weight s.strategy s.flen e) := by
  unfold flushOne
  cases ho : s.objs[oi]? with
  | none => exact Or.inl ⟨.refl s, ⟨rfl, rfl, rfl⟩, nofun⟩
  | some o =>
    simp only [Option.some.injEq, forall_eq']
    cases hs : s.strategy with
    | none => exact Or.inl ⟨.refl s, ⟨rfl, rfl, rfl⟩, fun _ h => absurd rfl h⟩
    | serialized =>
      dsimp only
      rw [flushSer_eq]
      by_cases hd : (!s.isBuffered o || force) = true
      · rw [if_pos hd]
        cases he : s.entry o.res with
        | none => exact Or.inl ⟨.refl s, ⟨rfl, rfl, rfl⟩, fun _ _ => rfl⟩
        | some e => exact Or.inr ⟨o, e, _, none, rfl, hd, he, quiet_writeSer s oi o e,
            fun hc => by rw [writeSer_clean s oi o hc], fun _ => rfl, nofun, finSer_eq ..⟩
      · rw [if_neg hd]
        exact Or.inl ⟨.refl s, ⟨rfl, rfl, rfl⟩, fun h => absurd h hd⟩
    | sharedMemory =>
      dsimp only
      rw [flushMem_eq]
      by_cases hd : (!s.isBuffered o || force) = true
      · rw [if_pos hd]
        cases he : s.entry o.res with
        | none =>
          dsimp only
          refine Or.inl ⟨?_, ?_, fun _ _ => rfl⟩ <;> split
          · exact quiet_reload ..
          · exact .refl s
          · exact .of_core (reload_core ..)
          · exact ⟨rfl, rfl, rfl⟩
        | some e =>
          refine Or.inr ⟨o, e, _, _, rfl, hd, he, quiet_writeMem s oi o e ho,
            fun hc => by rw [writeMem_clean s oi o hc], ?_, ?_, finMem_eq s.flen ..⟩ <;> cases force
          · exact fun _ => rfl
          · exact fun h => by rcases h with h | h <;> cases h
          · exact nofun
          · exact fun _ h => by cases h; exact ⟨rfl, rfl⟩
      · rw [if_neg hd]
        exact Or.inl ⟨quiet_detach ho, .of_core (detach_core ..), fun h => absurd h hd⟩

/-- a relation between a state and a later one that is carried through the machine: it chains,
holds along every update that leaves entries, size, static parameters and disk alone, and along
what the machine does to the buffer when it reads: the flush of one object and the insertion of an
entry that is what was read — for either strategy, which the structure never mentions (`weight` and
`CleanE` speak for both).  The lemmas of the namespace lift it to every function of the machine that does
no more than that (`Carried.step`: every read-only step). -/
structure Carried (R : State → State → Prop) : Prop extends Composes R where
  same : ∀ {s s'}, SameBook s s' → DiskSame s s' → R s s'
  flushOne : ∀ s oi force, R s (flushOne s oi force).1
  init : ∀ s r e, s.entry r = none → CleanE s.strategy e →
    R s (setBuf s r (some e) (s.size + weight s.strategy s.flen e))

/-- C17's notion of a read-only step, one that cannot modify data: reads through any handle,
entering and leaving contexts of both kinds (with or without a capacity), capacity changes, new
objects, and `setFailing` (the environment switches which files refuse writes) -/
def Step.readOnly : Step → Bool
  | .call _ op => op.isRead
  | .enterObj _ | .exitObj _ | .enterCls _ | .exitCls | .setCap _ | .openObj _ _ _ | .setFailing _ => true
  | .ext _ _ | .extDel _ => false

namespace Carried
variable {R : State → State → Prop} (hR : Carried R)
include hR

theorem of_core {s s' : State} (h : s'.core = s.core) : R s s' :=
  hR.same (.of_core h) (.of_core h)

/-- an update of the settings touches neither the buffer's book nor the disk -/
theorem of_settings (s : State) (registry := s.registry) (capacity := s.capacity)
    (capStack := s.capStack) (ctx := s.ctx) : R s { s with registry, capacity, capStack, ctx } :=
  hR.same (.of_settings s registry capacity capStack ctx) ⟨rfl, rfl, rfl⟩

theorem flushBuffer (s : State) (force : Bool) : R s (flushBuffer s force).1 :=
  hR.toComposes.flushBuffer hR.flushOne (fun s l => hR.of_settings s (registry := l)) s force

theorem overflow (s : State) : R s (overflow s).1 := by
  unfold B.overflow
  split
  · exact hR.flushBuffer s true
  · exact hR.refl s

theorem setCapacity (s : State) (n : Nat) : R s (setCapacity s n).1 := by
  rw [setCapacity_eq]
  exact hR.trans (hR.of_settings s (capacity := n)) (hR.overflow _)

theorem reload (s : State) (oi : Nat) (o : Obj) : R s (reload s oi o).1 :=
  hR.of_core (reload_core s oi o)

theorem register (s : State) (oi : Nat) : R s (s.register oi) := by
  rw [State.register_eq]
  exact hR.of_settings s (registry := _)

theorem ensureEntry (s : State) (oi : Nat) (o : Obj) : R s (ensureEntry s oi o).1 := by
  rcases ensureEntry_cases s oi o with ⟨_, heq⟩ | ⟨_, _, heq⟩ | ⟨hnone, _, e, hc, heq⟩ <;> rw [heq]
  · exact hR.register s oi
  · exact hR.reload s oi o
  · have hent := (entry_of_sameBook (.of_core (reload_core s oi o)) _).trans hnone
    exact hR.trans (hR.trans (hR.reload s oi o) (hR.init _ _ e hent hc)) (hR.register _ oi)

theorem load (s : State) (oi : Nat) : R s (load s oi).1 := by
  rw [load_eq]
  split
  · exact hR.refl s
  · split
    · split
      · refine hR.andThen (hR.ensureEntry s oi _) ?_
        split
        · exact hR.refl _
        · exact hR.andThen (hR.overflow _) (hR.of_core (mergeInto_core ..))
      · refine hR.andThen (hR.ensureEntry s oi _) ?_
        split
        · exact hR.refl _
        · exact hR.of_core (State.setObj_core ..)
      · exact hR.refl s
    · exact hR.reload s oi _

/-- a call; the save of a mutating one is the caller's business (`Keeps` holds along it, `RO` does not) -/
theorem call (s : State) (h : Handle) (op : Op) (hsave : op.isRead = false → ∀ s oi, R s (save s oi).1) :
    R s (call s h op).1 :=
  hR.toComposes.call hR.load (fun _ _ _ _ => hR.of_core (memUpdate_core ..)) s h op hsave

theorem enterObj (s : State) (oi : Nat) : R s (enterObj s oi) := by
  unfold B.enterObj
  split
  · exact hR.refl s
  · exact hR.of_core (State.setObj_core ..)

theorem exitObj (s : State) (oi : Nat) : R s (exitObj s oi).1 := by
  unfold B.exitObj
  split
  · exact hR.refl s
  · simp only
    split
    · exact hR.trans (b := s.setObj oi _) (hR.of_core (State.setObj_core ..)) (hR.flushOne _ _ _)
    · exact hR.of_core (State.setObj_core ..)

theorem enterCls (s : State) (cap : Option Nat) : R s (enterCls s cap).1 := by
  unfold B.enterCls
  have h1 : ∀ st, R s { s with ctx := s.ctx + 1, capStack := st } := fun st =>
    hR.of_settings s (ctx := s.ctx + 1) (capStack := st)
  cases cap with
  | none => exact h1 _
  | some c => exact hR.trans (h1 _) (hR.setCapacity _ c)

theorem popCap (s : State) : R s (popCap s).1 := by
  unfold B.popCap
  split
  · exact hR.refl s
  · exact hR.of_settings s (capStack := _)
  · exact hR.trans (hR.of_settings s (capStack := _)) (hR.setCapacity _ _)

theorem exitCls (s : State) : R s (exitCls s).1 := by
  rw [exitCls_fst]
  refine hR.trans ?_ (hR.popCap _)
  have h0 : R s { s with ctx := s.ctx - 1 } := hR.of_settings s (ctx := s.ctx - 1)
  split
  · exact hR.trans h0 (hR.flushBuffer _ false)
  · exact h0

theorem openObj (s : State) (d : Bool) (r : Nat) (data : Option J) : R s (openObj s d r data).1 := by
  rcases openObj_fst s d r data with h | ⟨root, n, h⟩ <;> rw [h]
  · exact hR.refl s
  · exact hR.of_core (newObj_core ..)

theorem step (s : State) (st : Step) (h : st.readOnly = true) : R s (step s st) := by
  cases st with
  | call hd op => exact hR.call s hd op (fun hw => by simp [Step.readOnly, hw] at h)
  | enterObj oi => exact hR.enterObj s oi
  | exitObj oi => exact hR.exitObj s oi
  | enterCls cap => exact hR.enterCls s cap
  | exitCls => exact hR.exitCls s
  | setCap n => exact hR.setCapacity s n
  | openObj d r data => exact hR.openObj s d r data
  | ext r d => simp [Step.readOnly] at h
  | extDel r => simp [Step.readOnly] at h
  | setFailing rs => exact hR.of_core rfl

end Carried

end SC.B
