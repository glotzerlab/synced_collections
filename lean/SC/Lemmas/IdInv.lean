/-
Identities under the merge.  `_update` keeps the Python objects that stay (their identities are
unchanged) and creates new ones for new containers (`_from_base`, identities from the counter).
So the identities of a tree after a merge are, up to order, a selection of those it had and the
numbers the counter handed out meanwhile, each used at most once (`IdSel`) — at any depth, for any
data, also when the merge stops with an exception.  Hence identities that were pairwise distinct
and below the counter are so afterwards (`IdSel.step`), which is what makes "the object the user
holds" and "the node at the path" the same thing (`Lemmas/Path.lean`).
-/
import SC.Lemmas.Fresh
import SC.Lemmas.Find
import SC.Lemmas.Tree
import SC.Lemmas.SubP
namespace SC
variable {ι : Type}

/-- outcome of a step that started at counter `n` with identities `old`: the counter did not go
back, the new identities are pairwise distinct, each is an old one or was drawn from `[n, next)` -/
def IdStep (n : Nat) (old : List Nat) (next : Nat) (new : List Nat) : Prop :=
  n ≤ next ∧ new.Nodup ∧ ∀ i ∈ new, i ∈ old ∨ (n ≤ i ∧ i < next)

theorem IdStep.refl_le {n m : Nat} {old : List Nat} (h : old.Nodup) (hnm : n ≤ m) : IdStep n old m old :=
  ⟨hnm, h, fun _ hi => Or.inl hi⟩

theorem IdStep.refl {n : Nat} {old : List Nat} (h : old.Nodup) : IdStep n old n old :=
  refl_le h (Nat.le_refl _)

theorem IdStep.bound {n next : Nat} {old new : List Nat} (h : IdStep n old next new)
    (hb : ∀ i ∈ old, i < n) : ∀ i ∈ new, i < next := by
  intro i hi
  rcases h.2.2 i hi with ho | hf
  · exact Nat.lt_of_lt_of_le (hb i ho) h.1
  · exact hf.2

theorem IdStep.container {n m i : Nat} {old res : List Nat} (h : IdStep n old m res) (hi : i ∉ old)
    (hin : i < n) : IdStep n (i :: old) m (i :: res) := by
  refine ⟨h.1, List.nodup_cons.mpr ⟨fun hm => ?_, h.2.1⟩, fun a ha => ?_⟩
  · rcases h.2.2 i hm with ho | hf
    · exact hi ho
    · omega
  · rcases List.mem_cons.mp ha with rfl | ha
    · exact Or.inl List.mem_cons_self
    · exact (h.2.2 a ha).imp_left (List.mem_cons_of_mem _)

/-- The same outcome with nothing assumed of `old`: the counter did not go back and the new
identities are, up to order, a selection of the old ones and the numbers drawn from `[n, next)`,
each used at most once.  Steps on parts compose to steps on the whole by the algebra of `SubP`. -/
def IdSel (n : Nat) (old : List Nat) (next : Nat) (new : List Nat) : Prop :=
  n ≤ next ∧ SubP new (old ++ fresh n next)

namespace IdSel
variable {n m k : Nat} {old new : List Nat}

theorem refl_le (old : List Nat) (h : n ≤ m) : IdSel n old m old := ⟨h, (SubP.refl old).append_right _⟩

theorem refl (n : Nat) (old : List Nat) : IdSel n old n old := refl_le old (Nat.le_refl n)

theorem trans {a b c : List Nat} (h1 : IdSel n a m b) (h2 : IdSel m b k c) : IdSel n a k c :=
  ⟨Nat.le_trans h1.1 h2.1, by
    rw [← fresh_append h1.1 h2.1, ← List.append_assoc]
    exact h2.2.trans (h1.2.append (.refl _))⟩

theorem subp {l : List Nat} (h : IdSel n old m new) (hl : SubP l new) : IdSel n old m l := ⟨h.1, hl.trans h.2⟩

theorem cons (i : Nat) (h : IdSel n old m new) : IdSel n (i :: old) m (i :: new) := ⟨h.1, h.2.cons i⟩

/-- a step on one part of a list of identities is a step on the whole -/
theorem frame (A B : List Nat) (h : IdSel n old m new) : IdSel n (A ++ old ++ B) m (A ++ new ++ B) :=
  ⟨h.1, (((SubP.refl A).append h.2).append (.refl B)).trans (.of_perm (by
    simp only [List.append_assoc]
    exact (List.perm_append_comm.append_left old).append_left A))⟩

theorem append {A A' B B' : List Nat} (h1 : IdSel n A m A') (h2 : IdSel m B k B') :
    IdSel n (A ++ B) k (A' ++ B') := by
  have s1 := h1.frame [] B
  have s2 := h2.frame A' []
  simp only [List.nil_append, List.append_nil] at s1 s2
  exact s1.trans s2

/-- nothing is kept: the new identities are the numbers drawn last -/
theorem drawn {m' : Nat} (hnm : n ≤ m) (hmm : m ≤ m') : IdSel n old m' (fresh m m') :=
  ⟨Nat.le_trans hnm hmm, by
    rw [← fresh_append hnm hmm]
    exact .of_sublist ((List.sublist_append_right _ _).trans (List.sublist_append_right _ _))⟩

theorem mem (h : IdSel n old m new) {i : Nat} (hi : i ∈ new) : i ∈ old ∨ (n ≤ i ∧ i < m) :=
  (List.mem_append.mp (h.2.subset i hi)).imp_right mem_fresh.mp

/-- pairwise distinct identities below the counter stay so -/
theorem step (h : IdSel n old m new) (hn : old.Nodup) (hb : ∀ a ∈ old, a < n) : IdStep n old m new :=
  ⟨h.1, h.2.nodup (List.nodup_append.mpr ⟨hn, nodup_fresh n m, fun a ha b hb2 e =>
    Nat.not_lt.mpr (mem_fresh.mp hb2).1 (e ▸ hb a ha : b < n)⟩), fun _ => h.mem⟩

end IdSel

theorem IdStep.sel {n m : Nat} {old new : List Nat} (h : IdStep n old m new) : IdSel n old m new :=
  ⟨h.1, .of_nodup_subset h.2.1 fun i hi => List.mem_append.mpr ((h.2.2 i hi).imp_right mem_fresh.mpr)⟩

/-- the identities below one binding are a segment of the dict's; `setKey` replaces that segment -/
theorem idsKV_split {k : Key} {cur : List (Key × T)} {ex : T} (hl : Tr.lookup k cur = some ex) :
    ∃ A B, Tr.idsKV cur = A ++ Tr.ids ex ++ B ∧ ∀ v, Tr.idsKV (Tr.setKey k v cur) = A ++ Tr.ids v ++ B := by
  obtain ⟨l₁, l₂, rfl, hs, _⟩ := lookup_split hl
  exact ⟨Tr.idsKV l₁, Tr.idsKV l₂, by simp [idsKV_eq], fun v => by simp [hs, idsKV_eq]⟩

theorem elemStep_sel {existing : T} {new : Tr ι} {nested : UpdRes T} {verr : Option Err} {n : Nat}
    (hn : IdSel n (Tr.ids existing) nested.next (Tr.ids nested.val)) :
    IdSel n (Tr.ids existing) (elemStep existing new nested verr n).next
      (Tr.ids (elemStep existing new nested verr n).val) := by
  refine elemStep_keeps (P := fun r => IdSel n (Tr.ids existing) r.next (Tr.ids r.val)) (.refl _ _) hn
    fun r hr => ?_
  cases verr with
  | some e => exact hr
  | none => exact (fromBase_ids new r.next).2 ▸ .drawn hr.1 (fromBase_ids new r.next).1

variable (fam : Fam)

mutual
/-- THE IDENTITY INVARIANT OF THE MERGE: every identity of the result is one the tree had or a new
one, none used twice — for every tree, every data, whether or not the merge raises -/
theorem updNode_sel : ∀ (d : Tr ι) (t : T) (n : Nat),
    IdSel n (Tr.ids t) (updNode fam t d n).next (Tr.ids (updNode fam t d n).val)
  | .leaf s, t, n => by rw [updNode_leaf]; exact .refl _ _
  | .list j dxs, t, n => by
    cases t with
    | list i xs => exact (updListLoop_sel dxs xs n).cons i
    | _ => exact .refl _ _
  | .dict j dkvs, t, n => by
    cases t with
    | dict i kvs =>
      have h := updDictLoop_sel dkvs kvs n
      simp only [updNode]
      split
      · exact h.cons i
      · exact (h.subp (.of_sublist (idsKV_sublist List.filter_sublist))).cons i
    | _ => exact .refl _ _
theorem updDictLoop_sel : ∀ (data : List (Key × Tr ι)) (cur : List (Key × T)) (n : Nat),
    IdSel n (Tr.idsKV cur) (updDictLoop fam cur data n).next (Tr.idsKV (updDictLoop fam cur data n).val)
  | [], cur, n => .refl _ _
  | (k, v) :: rest, cur, n => by
    simp only [updDictLoop]
    split
    · split
      · exact .refl _ _
      · -- a new key: the converted value is appended, then the loop goes on
        have hf := fromBase_ids v n
        have s1 : IdSel n (Tr.idsKV cur) (fromBase v n).2 (Tr.idsKV (cur ++ [(k, (fromBase v n).1)])) :=
          ⟨hf.1, by simp [idsKV_eq, hf.2, SubP.refl]⟩
        exact s1.trans (updDictLoop_sel rest _ _)
    · next existing hlook =>
      -- the step on the value at `k`, seen as a step on the whole dict
      obtain ⟨A, B, hcur, hset⟩ := idsKV_split hlook
      have s1 := (elemStep_sel (new := v) (verr := validateKV fam.dictV [(k, v)])
        (updNode_sel v existing n)).frame A B
      rw [← hcur, ← hset] at s1
      split
      · exact s1
      · exact s1.trans (updDictLoop_sel rest _ _)
theorem updListLoop_sel : ∀ (data : List (Tr ι)) (cur : List T) (n : Nat),
    IdSel n (Tr.idsL cur) (updListLoop fam cur data n).next (Tr.idsL (updListLoop fam cur data n).val)
  | [], [], n => .refl _ _
  | [], c :: cs, n => ⟨Nat.le_refl _, .of_sublist (List.nil_sublist _)⟩
  | d :: ds, [], n => by
    simp only [updListLoop]
    split
    · exact .refl _ _
    · exact (fromBaseL_ids (d :: ds) n).2 ▸ .drawn (Nat.le_refl n) (fromBaseL_ids (d :: ds) n).1
  | d :: ds, c :: cs, n => by
    have hs := elemStep_sel (new := d) (verr := validate fam.listV d) (updNode_sel d c n)
    simp only [updListLoop]
    split
    · -- the position raised: the rest of the list is untouched
      simpa [Tr.idsL] using hs.frame [] (Tr.idsL cs)
    · exact hs.append (updListLoop_sel ds cs _)
end

theorem updNode_ids : ∀ (d : Tr ι) (t : T) (n : Nat), (Tr.ids t).Nodup → (∀ i ∈ Tr.ids t, i < n) →
    IdStep n (Tr.ids t) (updNode fam t d n).next (Tr.ids (updNode fam t d n).val) :=
  fun d t n => (updNode_sel fam d t n).step
theorem updDictLoop_ids : ∀ (data : List (Key × Tr ι)) (cur : List (Key × T)) (n : Nat),
    (Tr.idsKV cur).Nodup → (∀ i ∈ Tr.idsKV cur, i < n) →
    IdStep n (Tr.idsKV cur) (updDictLoop fam cur data n).next (Tr.idsKV (updDictLoop fam cur data n).val) :=
  fun data cur n => (updDictLoop_sel fam data cur n).step
theorem updListLoop_ids : ∀ (data : List (Tr ι)) (cur : List T) (n : Nat),
    (Tr.idsL cur).Nodup → (∀ i ∈ Tr.idsL cur, i < n) →
    IdStep n (Tr.idsL cur) (updListLoop fam cur data n).next (Tr.idsL (updListLoop fam cur data n).val) :=
  fun data cur n => (updListLoop_sel fam data cur n).step

theorem updListLoop_next_le (fam : Fam) : ∀ (data : List (Tr ι)) (cur : List T) (n : Nat),
    n ≤ (updListLoop fam cur data n).next :=
  fun data cur n => (updListLoop_sel fam data cur n).1

/-- `replace_sel` for a list of trees, given it for each of them.  That is a hypothesis (`ih`) so that
the lemma serves inside the induction of `replace_sel` (for the children) and, with `replace_sel`
itself for `ih`, gives `replaceL_ids`. -/
theorem replace_sel_forest (h : Nat) (new : T) (n m : Nat) (ts : List T) (c : T)
    (ih : ∀ x ∈ ts, (Tr.ids x).Nodup → Tr.find h x = some c → IdSel n (Tr.ids x) m (Tr.ids (Tr.replace h new x)))
    (hn : (ts.flatMap Tr.ids).Nodup) (hf : ts.findSome? (Tr.find h) = some c) :
    IdSel n (ts.flatMap Tr.ids) m ((ts.map (Tr.replace h new)).flatMap Tr.ids) := by
  obtain ⟨l₁, x, l₂, rfl, hx, hmap⟩ := replace_forest new hn hf
  rw [hmap]
  simp only [List.flatMap_append, List.flatMap_cons, ← List.append_assoc] at hn ⊢
  exact (ih x (by simp) (hn.sublist ((List.sublist_append_right _ _).trans (List.sublist_append_left _ _)))
    hx).frame _ _

/-- replacing the node with identity `h` (found as `c`) by a node obtained from `c` by a step:
the whole tree makes the same kind of step.  Distinct identities are needed here, and only here:
they make `h` occur once. -/
theorem replace_sel (h : Nat) (new : T) (n m : Nat) : ∀ (t c : T), (Tr.ids t).Nodup →
    Tr.find h t = some c → IdSel n (Tr.ids c) m (Tr.ids new) →
    IdSel n (Tr.ids t) m (Tr.ids (Tr.replace h new t)) := by
  intro t c
  induction t using Tr.kidsInd with
  | node t ih =>
    intro hn hf hs
    rw [find_eq] at hf
    rw [replace_eq]
    split at hf
    · next e => cases hf; rw [if_pos e]; exact hs
    · next e =>
      rw [if_neg e, ids_eq (t.mapKids _), id?_mapKids, kids_mapKids]
      rw [ids_eq] at hn ⊢
      have := (replace_sel_forest h new n m t.kids c (fun x hx hxn hxf => ih x hx hxn hxf hs)
        (List.nodup_append.mp hn).2.1 hf).frame t.id?.toList []
      simpa using this

theorem replace_ids (h : Nat) (new : T) (n m : Nat) : ∀ (t c : T), (Tr.ids t).Nodup →
    (∀ a ∈ Tr.ids t, a < n) → Tr.find h t = some c → IdStep n (Tr.ids c) m (Tr.ids new) →
    IdStep n (Tr.ids t) m (Tr.ids (Tr.replace h new t)) :=
  fun t c hn hb hf hs => (replace_sel h new n m t c hn hf hs.sel).step hn hb
theorem replaceL_ids (h : Nat) (new : T) (n m : Nat) : ∀ (xs : List T) (c : T), (Tr.idsL xs).Nodup →
    (∀ a ∈ Tr.idsL xs, a < n) → Tr.findL h xs = some c → IdStep n (Tr.ids c) m (Tr.ids new) →
    IdStep n (Tr.idsL xs) m (Tr.idsL (Tr.replaceL h new xs)) := by
  intro xs c hn hb hf hs
  rw [idsL_eq] at hn hb
  rw [idsL_eq, idsL_eq, replaceL_eq]
  exact (replace_sel_forest h new n m xs c (fun x _ hxn hxf => replace_sel h new n m x c hxn hxf hs.sel)
    hn (findL_eq h xs ▸ hf)).step hn hb
theorem replaceKV_ids (h : Nat) (new : T) (n m : Nat) : ∀ (kvs : List (Key × T)) (c : T),
    (Tr.idsKV kvs).Nodup → (∀ a ∈ Tr.idsKV kvs, a < n) → Tr.findKV h kvs = some c →
    IdStep n (Tr.ids c) m (Tr.ids new) →
    IdStep n (Tr.idsKV kvs) m (Tr.idsKV (Tr.replaceKV h new kvs)) := by
  intro kvs c hn hb hf hs
  have := replaceL_ids h new n m (kvs.map (·.2)) c
  simp only [idsL_eq, findL_eq, replaceL_eq, List.flatMap_map, List.findSome?_map, List.map_map] at this
  simp only [idsKV_eq, findKV_eq, replaceKV_eq, List.flatMap_map] at hn hb hf ⊢
  exact this hn hb hf hs

end SC
