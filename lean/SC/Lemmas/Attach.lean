/-
C02 — a child handle stays attached across reloads.
(1) Merging VALID data never raises, except for a kind mismatch at the very root of the merge.
(2) Hence along any path on which memory and data hold containers of the same kind, the merge
    goes through the nested `_update` calls in place: the node at the path keeps its identity.
-/
import SC.Lemmas.Merge
import SC.Lemmas.Path
namespace SC
open Tr

variable {ι : Type}

theorem elemStep_noerr {existing : T} {new : Tr ι} {nested : UpdRes T} {verr : Option Err} {n : Nat}
    (hv : verr = none) (hn : nested.err = none ∨ nested.err = some .valueError) :
    (elemStep existing new nested verr n).err = none := by
  rcases elemStep_cases existing new nested verr n with ⟨_, _, _, h⟩ | ⟨_, h⟩ | ⟨_, _, ⟨h, hne⟩ | ⟨_, h⟩⟩ <;> rw [h]
  · exact (replaceStep_err ..).trans hv
  · rcases hn with hn | hn
    · exact hn
    · exact absurd (hne _ hn) (by simp [Err.isValueError])
  · exact (replaceStep_err ..).trans hv

mutual
/-- (1) merging valid data raises at most the `ValueError` of a kind mismatch at the root -/
theorem updNode_valid (fam : Fam) : ∀ (d : Tr ι) (t : T) (n : Nat), Valid fam d →
    (updNode fam t d n).err = none ∨ (updNode fam t d n).err = some .valueError
  | .leaf s => fun t n _ => by rw [updNode_leaf]; by_cases h : s = .null <;> simp [h]
  | .list j dxs => fun t n hv => by
    cases t with
    | list i xs => exact Or.inl (updListLoop_valid fam dxs xs n hv.list)
    | _ => exact Or.inr rfl
  | .dict j dkvs => fun t n hv => by
    cases t with
    | dict i kvs => simp [updNode, updDictLoop_valid fam dkvs kvs n hv.dict]
    | _ => exact Or.inr rfl
theorem updDictLoop_valid (fam : Fam) : ∀ (data : List (Key × Tr ι)) (cur : List (Key × T)) (n : Nat),
    ValidKV fam data → (updDictLoop fam cur data n).err = none
  | [] => fun _ _ _ => rfl
  | (k, v) :: rest => fun cur n hv => by
    obtain ⟨hkv, hvv, hrest⟩ := hv.cons
    simp only [updDictLoop]
    cases hlook : Tr.lookup k cur with
    | none =>
      simp only [hkv]
      exact updDictLoop_valid fam rest _ _ hrest
    | some existing =>
      simp only [elemStep_noerr (existing := existing) (n := n) hkv (updNode_valid fam v existing n hvv)]
      exact updDictLoop_valid fam rest _ _ hrest
theorem updListLoop_valid (fam : Fam) : ∀ (data : List (Tr ι)) (cur : List T) (n : Nat),
    ValidL fam data → (updListLoop fam cur data n).err = none
  | [], [] => fun _ _ => rfl
  | [], c :: cs => fun _ _ => rfl
  | d :: ds, [] => fun n hv => by simp only [updListLoop, hv.validateL]
  | d :: ds, c :: cs => fun n hv => by
    obtain ⟨hd, hds⟩ := hv.cons
    simp only [updListLoop,
      elemStep_noerr (existing := c) (n := n) hd.validate_list (updNode_valid fam d c n hd)]
    exact updListLoop_valid fam ds cs _ hds
end

theorem Valid.child {fam : Fam} {s : Seg} {d dc : Tr ι} (hv : Valid fam d) (h : Tr.child s d = some dc) :
    Valid fam dc :=
  ⟨all_kids hv.1 dc (child_mem_kids h), all_kids hv.2 dc (child_mem_kids h)⟩

theorem updNode_sameKind_noerr (fam : Fam) (d : Tr ι) (t : T) (n : Nat) (hv : Valid fam d)
    (hk : sameKind t d = true) : (updNode fam t d n).err = none := by
  cases t <;> cases d <;> try cases hk
  · exact updListLoop_valid fam _ _ n hv.list
  · simp [updNode, updDictLoop_valid fam _ _ n hv.dict]

theorem elemStep_sameKind (fam : Fam) (c : T) (dc : Tr ι) (verr : Option Err) (n : Nat) (hv : Valid fam dc)
    (hk : sameKind c dc = true) :
    elemStep c dc (updNode fam c dc n) verr n = updNode fam c dc n := by
  have herr := updNode_sameKind_noerr fam dc c n hv hk
  cases c <;> cases dc <;> try cases hk
  all_goals simp only [elemStep, herr]

/-- the dict loop at a key that memory and data both have: afterwards the key holds what the step
(`elemStep`) makes of the two values, at the counter `n'` the loop has reached by then -/
theorem updDictLoop_lookup (fam : Fam) (k : Key) : ∀ (data : List (Key × Tr ι)) (cur : List (Key × T)) (n : Nat)
    (c : T) (dc : Tr ι), Tr.wfKV data = true → ValidKV fam data →
    Tr.lookup k cur = some c → Tr.lookup k data = some dc →
    ∃ n', Tr.lookup k (updDictLoop fam cur data n).val =
      some (elemStep c dc (updNode fam c dc n') (validateKV fam.dictV [(k, dc)]) n').val
  | [] => fun _ _ _ _ _ _ _ hd => nomatch hd
  | (k0, v0) :: rest => fun cur n c dc hwd hv hc hd => by
    obtain ⟨hkv, hvv, hrest⟩ := hv.cons
    obtain ⟨hknot, _, hrw⟩ := wfKV_cons.mp hwd
    have hs : ∀ existing : T, (elemStep existing v0 (updNode fam existing v0 n)
        (validateKV fam.dictV [(k0, v0)]) n).err = none :=
      fun existing => elemStep_noerr hkv (updNode_valid fam v0 existing n hvv)
    simp only [Tr.lookup] at hd
    simp only [updDictLoop]
    split at hd
    · -- the step at `k` happens here; the rest of the data does not mention `k`
      next hk =>
      subst hk; cases hd
      refine ⟨n, ?_⟩
      simp only [hc, hs]
      rw [updDictLoop_other fam k0 rest _ _ hknot, lookup_setKey_same]
    · next hk =>
      cases hlook : Tr.lookup k0 cur with
      | none =>
        simp only [hkv]
        exact updDictLoop_lookup fam k rest _ _ c dc hrw hrest (by rw [lookup_append, hc]) hd
      | some existing =>
        simp only [hs]
        exact updDictLoop_lookup fam k rest _ _ c dc hrw hrest
          (by rw [lookup_setKey_other k0 k _ cur (fun e => hk e.symm), hc]) hd

theorem updDictLoop_at (fam : Fam) (k : Key) : ∀ (data : List (Key × Tr ι)) (cur : List (Key × T)) (n : Nat)
    (c : T) (dc : Tr ι),
    Tr.wfKV data = true → Tr.wfKV cur = true → ValidKV fam data →
    Tr.lookup k cur = some c → Tr.lookup k data = some dc →
    ∃ n', Tr.lookup k (updDictLoop fam cur data n).val =
      some (elemStep c dc (updNode fam c dc n') (validateKV fam.dictV [(k, dc)]) n').val :=
  fun data cur n c dc hwd _ => updDictLoop_lookup fam k data cur n c dc hwd

theorem updListLoop_at (fam : Fam) : ∀ (j : Nat) (data : List (Tr ι)) (cur : List T) (n : Nat) (c : T) (dc : Tr ι),
    ValidL fam data → cur[j]? = some c → data[j]? = some dc →
    ∃ n', (updListLoop fam cur data n).val[j]? =
      some (elemStep c dc (updNode fam c dc n') (validate fam.listV dc) n').val
  | j, [], cur => fun _ _ _ _ _ hd => nomatch hd
  | j, d :: ds, [] => fun _ _ _ _ hc _ => nomatch hc
  | j, d :: ds, c0 :: cs => fun n c dc hv hc hd => by
    obtain ⟨hdv, hds⟩ := hv.cons
    have hs := elemStep_noerr (existing := c0) (new := d) (n := n) hdv.validate_list (updNode_valid fam d c0 n hdv)
    simp only [updListLoop, hs]
    cases j with
    | zero =>
      cases hc
      cases hd
      exact ⟨n, rfl⟩
    | succ j => exact updListLoop_at fam j ds cs _ c dc hds hc hd

/-- One step of a path through the merge: the child at `s` afterwards is what the loop's step
(`elemStep`) makes of the old child and the data's child.  The counter `n'` the loop has reached
there and the validation result `verr` of that position are left open: `attach_at` needs neither. -/
theorem updNode_child (fam : Fam) {s : Seg} {t c : T} {d dc : Tr ι} (n : Nat) (hv : Valid fam d)
    (hwd : d.wf = true) (hc : Tr.child s t = some c) (hdc : Tr.child s d = some dc) :
    ∃ n' verr, Tr.child s (updNode fam t d n).val =
      some (elemStep c dc (updNode fam c dc n') verr n').val := by
  cases s with
  | key k =>
    obtain ⟨i, kvs, rfl, hc⟩ := child_key hc
    obtain ⟨j, dkvs, rfl, hdc⟩ := child_key hdc
    obtain ⟨n', hat⟩ := updDictLoop_lookup fam k dkvs kvs n c dc hwd hv.dict hc hdc
    refine ⟨n', validateKV fam.dictV [(k, dc)], ?_⟩
    simp only [updNode, updDictLoop_valid fam dkvs kvs n hv.dict, Tr.child]
    rw [lookup_filter_hasKey k _ dkvs ((hasKey_iff_lookup k dkvs).mpr ⟨dc, hdc⟩), hat]
  | idx j =>
    obtain ⟨i, xs, rfl, hc⟩ := child_idx hc
    obtain ⟨i', dxs, rfl, hdc⟩ := child_idx hdc
    obtain ⟨n', hat⟩ := updListLoop_at fam j dxs xs n c dc hv.list hc hdc
    exact ⟨n', _, hat⟩

theorem updNode_id? (fam : Fam) (t : T) (d : Tr ι) (n : Nat) : (updNode fam t d n).val.id? = t.id? := by
  cases d with
  | leaf s => rw [updNode_leaf]
  | list j dxs => cases t <;> rfl
  | dict j dkvs =>
    cases t with
    | dict i kvs => simp only [updNode]; split <;> rfl
    | _ => rfl

/-- (2) ATTACHMENT.  Memory `t`, valid data `d` without duplicate keys, a path along which both hold
containers of the same kind.  Then the merge `t._update(d)` does not raise and the node that was at
the path is still there — same identity — for every such path, at every depth. -/
theorem attach_at (fam : Fam) : ∀ (p : List Seg) (t : T) (d : Tr ι) (n : Nat),
    Valid fam d → d.wf = true → kindsMatch p t d = true →
    (updNode fam t d n).err = none ∧
    ∃ c c', Tr.sub p t = some c ∧ Tr.sub p (updNode fam t d n).val = some c' ∧
      c'.id? = c.id? ∧ c.id?.isSome = true
  | [] => fun t d n hv _ hk => by
    refine ⟨updNode_sameKind_noerr fam d t n hv hk, t, _, rfl, rfl, updNode_id? fam t d n, ?_⟩
    cases t <;> cases d <;> first | rfl | cases hk
  | s :: p => fun t d n hv hwd hk => by
    refine ⟨updNode_sameKind_noerr fam d t n hv (kindsMatch_sameKind _ t d hk), ?_⟩
    obtain ⟨-, c, dc, hc, hdc, hk'⟩ := kindsMatch_cons hk
    have hvdc := hv.child hdc
    obtain ⟨n', verr, hat⟩ := updNode_child fam n hv hwd hc hdc
    rw [elemStep_sameKind fam c dc _ n' hvdc (kindsMatch_sameKind p c dc hk')] at hat
    obtain ⟨_, c1, c2, h1, h2, h3, h4⟩ :=
      attach_at fam p c dc n' hvdc (wf_kids hwd dc (child_mem_kids hdc)) hk'
    exact ⟨c1, c2, by rw [sub_cons, hc]; exact h1, by rw [sub_cons, hat]; exact h2, h3, h4⟩

/-- the same with unique keys in memory assumed as well (not needed) -/
theorem attach (fam : Fam) : ∀ (p : List Seg) (t : T) (d : Tr ι) (n : Nat),
    Valid fam d → d.wf = true → t.wf = true → kindsMatch p t d = true →
    (updNode fam t d n).err = none ∧
    ∃ c c', Tr.sub p t = some c ∧ Tr.sub p (updNode fam t d n).val = some c' ∧
      c'.id? = c.id? ∧ c.id?.isSome = true :=
  fun p t d n hv hwd _ => attach_at fam p t d n hv hwd

theorem eqvL_get : ∀ {xs : List T} {ys : List (Tr ι)} {j : Nat} {x : T}, EqvL xs ys → xs[j]? = some x →
    ∃ y, ys[j]? = some y ∧ Eqv x y
  | [], _, _ => fun _ h => nomatch h
  | _ :: _, [], _ => fun he _ => he.elim
  | _ :: _, y :: _, 0 => fun he h => ⟨y, rfl, Option.some.inj h ▸ he.1⟩
  | _ :: _, _ :: _, j + 1 => fun he h => eqvL_get (j := j) he.2 h

theorem eqv_child {s : Seg} {t c : T} {d : Tr ι} (he : Eqv t d) (hc : Tr.child s t = some c) :
    ∃ dc, Tr.child s d = some dc ∧ Eqv c dc := by
  cases s with
  | key k =>
    obtain ⟨i, kvs, rfl, hc⟩ := child_key hc
    cases d with
    | dict j dkvs => exact (EqvKV_iff _ _).mp he.1 _ (mem_of_lookup hc)
    | _ => exact False.elim he
  | idx j =>
    obtain ⟨i, xs, rfl, hc⟩ := child_idx hc
    cases d with
    | list j' dxs => exact eqvL_get he hc
    | _ => exact False.elim he

/-- the merged content at a path is the data at that path -/
theorem eqv_sub : ∀ (p : List Seg) (t : T) (d : Tr ι) (c : T), Eqv t d → Tr.sub p t = some c →
    ∃ dc, Tr.sub p d = some dc ∧ Eqv c dc
  | [] => fun t d c he hs => by cases hs; exact ⟨d, rfl, he⟩
  | s :: p => fun t d c he hs => by
    obtain ⟨x, hx, hs⟩ := sub_cons_some hs
    obtain ⟨y, hy, hxy⟩ := eqv_child he hx
    obtain ⟨dc, hdc, hc⟩ := eqv_sub p x y c hxy hs
    exact ⟨dc, by rw [sub_cons, hy]; exact hdc, hc⟩

end SC
