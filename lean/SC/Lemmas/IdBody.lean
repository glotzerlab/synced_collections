/-
Identities under the operation bodies: whatever public operation runs on a node, the identities of
the node afterwards are a selection of those it had and the newly drawn ones (`runBody_sel`) — for
every operation of the API and every argument, also when the body raises.  So pairwise distinct
identities below the counter stay so (`runBody_ids`).
-/
import SC.Lemmas.IdInv
import SC.Lemmas.Seq
namespace SC

theorem idsL_append (a b : List T) : Tr.idsL (a ++ b) = Tr.idsL a ++ Tr.idsL b := by
  simp [idsL_eq]

theorem iterate_ids (t : T) (vs : List T) (h : iterate t = .ok vs) : (Tr.idsL vs).Sublist (Tr.ids t) := by
  rcases iterate_cases h with ⟨i, rfl⟩ | hleaves
  · exact List.sublist_cons_self _ _
  · have : Tr.idsL vs = [] := by
      rw [idsL_eq, List.flatMap_eq_nil_iff]
      intro x hx
      rcases hleaves x hx with ⟨s, rfl⟩ | ⟨i, rfl⟩ <;> rfl
    rw [this]
    exact List.nil_sublist _

/-- a plain method body: the container `i` stays, the content afterwards is a selection of the old
content and what the method was given (`dictMut_subp`), whose identities were drawn from `[n, n')` -/
theorem dmutRes_sel (i : Nat) (kvs : List (Key × T)) (m : DictMut T) (n n' : Nat) (hnm : n ≤ n')
    (hf : SubP (Tr.idsKV (DictMut.news m)) (fresh n n')) :
    IdSel n (i :: Tr.idsKV kvs) (dmutRes (.dict i kvs) i kvs m n').next
      (Tr.ids (dmutRes (.dict i kvs) i kvs m n').node) := by
  unfold dmutRes
  cases h : dictMut kvs m with
  | error e => exact .refl_le _ hnm
  | ok r =>
    have : SubP (Tr.idsKV r.data) (Tr.idsKV kvs ++ Tr.idsKV (DictMut.news m)) := by
      simpa [idsKV_eq] using (dictMut_subp kvs m r h).flatMap fun kv => Tr.ids kv.2
    exact ⟨hnm, (this.trans ((SubP.refl _).append hf)).cons i⟩

theorem lmutRes_sel (i : Nat) (xs : List T) (m : ListMut T) (n n' : Nat) (hnm : n ≤ n')
    (hf : SubP (Tr.idsL (ListMut.news m)) (fresh n n')) :
    IdSel n (i :: Tr.idsL xs) (lmutRes (.list i xs) i xs m n').next
      (Tr.ids (lmutRes (.list i xs) i xs m n').node) := by
  unfold lmutRes
  cases h : listMut xs m with
  | error e => exact .refl_le _ hnm
  | ok r =>
    have : SubP (Tr.idsL r.data) (Tr.idsL xs ++ Tr.idsL (ListMut.news m)) := by
      simpa [idsL_eq] using (listMut_subp xs m r h).flatMap Tr.ids
    exact ⟨hnm, (this.trans ((SubP.refl _).append hf)).cons i⟩

/-- every operation body makes an `IdSel` step on the node it runs on, whatever the node (also one
whose identities nothing is known of), the operation and its argument, also when it raises -/
theorem runBody_sel (fam : Fam) (t : T) (op : Op) (n : Nat) :
    IdSel n (Tr.ids t) (runBody fam t op n).next (Tr.ids (runBody fam t op n).node) := by
  -- `++ []`: what `idsKV [(k, v)]` and `idsL [v]` unfold to, so that `hone v` fits `dmutRes_sel` / `lmutRes_sel`
  have hone : ∀ v : J, SubP (Tr.ids (fromBase v n).1 ++ []) (fresh n (fromBase v n).2) := by
    intro v; rw [List.append_nil, (fromBase_ids v n).2]; exact .refl _
  have hle : ∀ v : J, n ≤ (fromBase v n).2 := fun v => (fromBase_ids v n).1
  have hnone : SubP ([] : List Nat) (fresh n n) := .of_sublist (List.nil_sublist _)
  cases t with
  | leaf s => rw [runBody_leaf]; exact .refl _ _
  | dict i kvs =>
    cases op with
    | dSetitem k v => exact dmutRes_sel i kvs (.setitem k _) n _ (hle v) (hone v)
    | dDelitem _ | dPop _ _ | dPopitem | dClear => exact dmutRes_sel i kvs _ n n (Nat.le_refl _) hnone
    | dSetdefault k d =>
      rw [runBody_dSetdefault]
      split
      · exact .refl _ _
      · split
        · exact .refl _ _
        · -- node and counter are those of `__setitem__`
          exact dmutRes_sel i kvs (.setitem k _) n _ (hle d) (hone d)
    | dUpdate other kw => rw [runBody_dUpdate]; exact (updDictLoop_sel fam _ kvs n).cons i
    | dReset v => exact updNode_sel fam v (.dict i kvs) n
    | dRead rd => rw [runBody_dRead]; split <;> exact .refl _ _
    | _ => exact .refl _ _
  | list i xs =>
    cases op with
    | lSetitem ix v =>
      cases ix with
      | i j => exact lmutRes_sel i xs (.setitem j _) n _ (hle v) (hone v)
      | sl sl =>
        rw [runBody_lSetslice]
        split
        · exact .refl_le _ (hle v)
        · next vs hit =>
          exact lmutRes_sel i xs _ n _ (hle v) ((fromBase_ids v n).2 ▸ .of_sublist (iterate_ids _ vs hit))
    | lInsert j v => exact lmutRes_sel i xs (.insert j _) n _ (hle v) (hone v)
    | lAppend v => exact lmutRes_sel i xs (.append _) n _ (hle v) (hone v)
    | lExtend v | lIadd v =>
      simp only [runBody_lIadd, runBody_lExtend]
      split
      · exact .refl _ _
      · next vs hit =>
        exact lmutRes_sel i xs _ n _ (fromBaseL_ids vs n).1 ((fromBaseL_ids vs n).2 ▸ .refl _)
    | lDelitem _ | lRemove _ | lClear | lPop _ | lReverse =>
      exact lmutRes_sel i xs _ n n (Nat.le_refl _) hnone
    | lReset v => exact updNode_sel fam v (.list i xs) n
    | lRead rd => rw [runBody_lRead]; split <;> exact .refl _ _
    | _ => exact .refl _ _

theorem runBody_ids (fam : Fam) (t : T) (op : Op) (n : Nat) (hn : (Tr.ids t).Nodup)
    (hb : ∀ a ∈ Tr.ids t, a < n) :
    IdStep n (Tr.ids t) (runBody fam t op n).next (Tr.ids (runBody fam t op n).node) :=
  (runBody_sel fam t op n).step hn hb

end SC
