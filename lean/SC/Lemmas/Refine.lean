/-
C04 / C01 / C02 together, as ONE refinement step, for a root handle and for a child handle at any
depth: a public call through any object bound to a resource behaves like the body of the operation
applied to (a tree with exactly the content of) the BACKEND'S CURRENT CONTENT — whatever the
object's memory held — and, for a mutator, the backend then holds exactly the body's result.  The
converse, for a handle whose node fell out of its tree: only the reload of its root reaches the backend.
-/
import SC.Lemmas.Attach
import SC.Lemmas.IdHist
namespace SC
open Tr

/-- THE REFINEMENT STEP (root handles).  Object `oi` is bound to a resource whose current content
is `d` (valid, no duplicate keys, of the object's kind); `oi`'s memory is ARBITRARY (stale, written
by nobody or by anyone).  For every operation that loads first and passes its pre-validation, the
call is: merge `d` into memory — giving a tree `t` with exactly the content of `d` — run the body
on `t`, and (mutators) write the result.  So the result and the new backend content are functions
of the backend's current content and the operation alone. -/
theorem call_root_refines (s : State) (oi : Nat) (o : Obj) (d : J) (op : Op)
    (ho : s.objs[oi]? = some o) (hst : s.store o.res = some d)
    (hv : Valid (s.fam o) d) (hwd : d.wf = true) (hwt : o.root.wf = true) (hk : sameKind o.root d = true)
    (hno : op.isOverwrite = false) (hns : op.skipsLoad = false)
    (hpre : preValidate (s.fam o) o.root.isDict op = none) :
    let t := (updNode (s.fam o) o.root d s.next).val
    let r := runBody (s.fam o) t op (loadRoot s oi).1.next
    Eqv t d ∧ t.wf = true ∧
    (call s (.root oi) op).2 = (match r.err with | some e => .error e | none => .ok r.out) ∧
    (op.isRead = false → (call s (.root oi) op).1.store o.res = some r.node.toBase) ∧
    (op.isRead = true → (call s (.root oi) op).1.stores = s.stores) := by
  have hlt : oi < s.objs.length := (List.getElem?_eq_some_iff.mp ho).1
  have herr : (updNode (s.fam o) o.root d s.next).err = none := updNode_sameKind_noerr _ d o.root s.next hv hk
  have hpost := updNode_post (s.fam o) d o.root s.next hwd hwt (ne_null_of_sameKind hk) herr
  have hlf : loadFor s oi true op = loadRoot s oi := by simp [loadFor, hno, hns]
  have hobj1 := loadRoot_obj ho hst
  have hown : handleOwner s (.root oi) = some (oi, true) := by simp [handleOwner, hlt]
  have hn0 : handleNode s (.root oi) = some o.root := by simp [handleNode, ho]
  have hnode1 : handleNode (loadRoot s oi).1 (.root oi) = some (updNode (s.fam o) o.root d s.next).val := by
    simp [handleNode, hobj1]
  have hc := CallAt.call_eq ⟨hown, hn0, ho, hpre, by rw [hlf, loadRoot_err ho hst, herr], by rw [hlf], hnode1⟩
  refine ⟨hpost.1, hpost.2, by rw [hc, finishCall_snd]; rfl, fun hm => ?_, call_read_stores s _ op⟩
  rw [hc]
  refine finishCall_store hm ?_
  rw [applyBody_objs, putNode_root hobj1]
  simp [hlt]

theorem findNode_at (s : State) (oi id : Nat) (o : Obj) (c : T)
    (ho : s.objs[oi]? = some o) (hf : Tr.find id o.root = some c)
    (hother : ∀ j o', j < oi → s.objs[j]? = some o' → id ∉ Tr.ids o'.root) :
    findNode s id = some c := by
  obtain ⟨hlt, rfl⟩ := List.getElem?_eq_some_iff.mp ho
  have : s.objs.findSome? (fun o => Tr.find id o.root) = some c := by
    refine List.findSome?_eq_some_iff.mpr
      ⟨s.objs.take oi, s.objs[oi], s.objs.drop (oi + 1), ?_, hf, fun x hx => ?_⟩
    · rw [List.getElem_cons_drop hlt, List.take_append_drop]
    · obtain ⟨j, hj, rfl⟩ := List.mem_take_iff_getElem.mp hx
      exact find_none_of_not_mem id _ (hother j _ (by omega) (List.getElem?_eq_getElem _))
  unfold findNode
  rw [this]

/-- THE REFINEMENT STEP FOR A CHILD HANDLE.  The user holds a nested collection: the node with
identity `id`, which sits at path `p` (any depth) of object `oi`'s tree.  The backend currently
holds `d` (written by whoever), valid, with containers of the same kind along `p`; `oi`'s memory is
ARBITRARY otherwise.  Identities in `oi`'s tree are pairwise distinct (they are Python objects) and
`id` occurs in no object before `oi`.  Then a call through the handle: loads the ROOT, after which
the handle still denotes the node at `p` — same identity — whose content is exactly the data at `p`;
runs the body on that node; and (mutators) leaves the backend holding the merged content with the
body's result AT PATH `p` and everything else as the backend had it. -/
theorem call_child_refines (s : State) (oi id : Nat) (o : Obj) (d : J) (p : List Seg) (c : T) (op : Op)
    (ho : s.objs[oi]? = some o) (hst : s.store o.res = some d) (hown : s.ownerOf id = some oi)
    (hsub : Tr.sub p o.root = some c) (hid : c.id? = some id)
    (hnd : (Tr.ids o.root).Nodup) (hlt : ∀ i ∈ Tr.ids o.root, i < s.next)
    (hother : ∀ j o', j < oi → s.objs[j]? = some o' → id ∉ Tr.ids o'.root)
    (hv : Valid (s.fam o) d) (hwd : d.wf = true) (hwt : o.root.wf = true)
    (hk : kindsMatch p o.root d = true) (hns : op.skipsLoad = false)
    (hpre : preValidate (s.fam o) c.isDict op = none) :
    ∃ c' dc, Tr.sub p (updNode (s.fam o) o.root d s.next).val = some c' ∧ c'.id? = some id ∧
      Tr.sub p d = some dc ∧ Eqv c' dc ∧
      Eqv (updNode (s.fam o) o.root d s.next).val d ∧
      (call s (.node id) op).2 =
        (match (runBody (s.fam o) c' op (loadRoot s oi).1.next).err with
         | some e => .error e
         | none => .ok (runBody (s.fam o) c' op (loadRoot s oi).1.next).out) ∧
      (op.isRead = false → (call s (.node id) op).1.store o.res =
        some (Tr.setSub p (updNode (s.fam o) o.root d s.next).val.toBase
          (runBody (s.fam o) c' op (loadRoot s oi).1.next).node.toBase)) ∧
      (op.isRead = true → (call s (.node id) op).1.stores = s.stores) := by
  obtain ⟨herr, c0, c', h1, h2, h3, h4⟩ := attach (s.fam o) p o.root d s.next hv hwd hwt hk
  obtain rfl : c = c0 := Option.some.inj (hsub.symm.trans h1)
  have hid' : c'.id? = some id := by rw [h3, hid]
  have hpost := updNode_post (s.fam o) d o.root s.next hwd hwt
    (ne_null_of_sameKind (kindsMatch_sameKind p o.root d hk)) herr
  obtain ⟨dc, hdc, hcdc⟩ := eqv_sub p _ d c' hpost.1 h2
  have hids := updNode_ids (s.fam o) d o.root s.next hnd hlt
  -- the state after the load
  have hlf : loadFor s oi false op = loadRoot s oi := by simp [loadFor, hns]
  have hobjs1 := loadRoot_objs ho hst
  have hobj1 := loadRoot_obj ho hst
  -- the handle before and after the load
  have hn0 : handleNode s (.node id) = some c :=
    findNode_at s oi id o c ho (find_of_sub p o.root c id hnd hsub hid) hother
  have hnode1 : handleNode (loadRoot s oi).1 (.node id) = some c' := by
    refine findNode_at _ oi id _ c' hobj1 (find_of_sub p _ c' id hids.2.1 h2 hid') fun j o' hj ho' => hother j o' hj ?_
    rwa [hobjs1, List.getElem?_set_ne (by omega)] at ho'
  have hownr : handleOwner s (.node id) = some (oi, false) := by simp [handleOwner, hown]
  have hc := CallAt.call_eq ⟨hownr, hn0, ho, hpre, by rw [hlf, loadRoot_err ho hst, herr], by rw [hlf], hnode1⟩
  refine ⟨c', dc, h2, hid', hdc, hcdc, hpost.1, by rw [hc, finishCall_snd]; rfl, fun hm => ?_,
    call_read_stores s _ op⟩
  -- the content with the body's result at `p` is what storing through the handle (by identity) leaves
  rw [hc, ← toBase_setSub, ← replace_of_sub _ p _ c' id hids.2.1 h2 hid']
  refine finishCall_store hm ?_
  simp [applyBody_objs, putNode, replaceNode, hobj1]

/-- THE CONVERSE OF ATTACHMENT.  The user holds a nested collection whose position was reassigned,
removed or changed kind: its identity `id` is in no object's tree any more (it lives on among the
detached nodes, still usable).  A mutation through it loads and saves its root like any other call
— and that is ALL the backend sees: the resource ends up holding the merged content of the root,
exactly what a bare load-and-save would leave; nothing of the operation's argument or effect
reaches the backend, and no other position is disturbed. -/
theorem call_detached_refines (s : State) (oi id : Nat) (o : Obj) (d : J) (t0 : T) (op : Op)
    (ho : s.objs[oi]? = some o) (hst : s.store o.res = some d) (hown : s.ownerOf id = some oi)
    (hok : IdOK s) (hnot : id ∉ flatIds s.objs) (hlt : id < s.next)
    (hdet : s.detached.findSome? (fun p => Tr.find id p.2) = some t0)
    (herr : (updNode (s.fam o) o.root d s.next).err = none)
    (hns : op.skipsLoad = false) (hm : op.isRead = false)
    (hpre : preValidate (s.fam o) t0.isDict op = none) :
    (call s (.node id) op).1.store o.res = some (updNode (s.fam o) o.root d s.next).val.toBase := by
  have hlf : loadFor s oi false op = loadRoot s oi := by simp [loadFor, hns]
  -- after the load the identity is still in no object's tree: it is old, and not one the trees had
  have hnot1 : id ∉ flatIds (loadRoot s oi).1.objs := by
    intro hin
    rcases (loadRoot_step s oi).mem hin with h | h
    · exact hnot h
    · omega
  -- so before and after the load the handle denotes the detached node
  have hn0 : handleNode s (.node id) = some t0 := by
    simp only [handleNode, findNode, (findSome_none_iff id s.objs).mpr hnot, hdet]
  have hnode1 : handleNode (loadRoot s oi).1 (.node id) = some t0 := by
    simp only [handleNode, findNode, (findSome_none_iff id _).mpr hnot1, loadRoot_detached ho hst,
      List.findSome?_append, hdet, Option.some_or]
  have hownr : handleOwner s (.node id) = some (oi, false) := by simp [handleOwner, hown]
  have hc := CallAt.call_eq ⟨hownr, hn0, ho, hpre, by rw [hlf, loadRoot_err ho hst, herr], by rw [hlf], hnode1⟩
  -- and storing through it changes no object
  rw [hc]
  refine finishCall_store hm ?_
  simp only [applyBody_objs, putNode, replaceNode]
  rw [map_replace_of_not_mem id _ _ hnot1]
  exact loadRoot_obj ho hst

end SC
