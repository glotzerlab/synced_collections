/-
L4 — crash atomicity of the save path (C08).  An operation that does not act on a file leaves its
committed content and what is pending on it (`exec_untouched`), and the crash points of a program
split (`crashContents_append`): before the `replace` the target is as it was, after it the target
holds the whole blob.  In a flush of several files, given distinct targets and temporary files, the
operations around the save of one file do not act on its target and add nothing (`crashContents_frame`).
-/
import SC.FS
namespace SC.FS

@[simp] theorem lookup_put_same (p : Path) (b : Bytes) (m : List (Path × Bytes)) :
    lookup p (put p b m) = some b := by simp [lookup, put]

theorem lookup_filter_other (p q : Path) (m : List (Path × Bytes)) (h : q ≠ p) :
    lookup q (m.filter (·.1 ≠ p)) = lookup q m := by
  simp only [lookup, List.find?_filter]
  congr 2
  funext x
  by_cases hx : x.1 = q <;> simp [hx, h]

theorem lookup_put_other (p q : Path) (b : Bytes) (m : List (Path × Bytes)) (h : q ≠ p) :
    lookup q (put p b m) = lookup q m := by
  rw [← lookup_filter_other p q m h]
  simp only [lookup, put, List.find?_cons, decide_eq_false (Ne.symm h)]

theorem lookup_drop_other (p q : Path) (m : List (Path × Bytes)) (h : q ≠ p) :
    lookup q (drop p m) = lookup q m := lookup_filter_other p q m h

@[simp] theorem lookup_drop_same (p : Path) (m : List (Path × Bytes)) : lookup p (drop p m) = none := by
  simp [lookup, drop, List.find?_eq_none]

/-- does the operation act on file `q`? -/
def touches : FsOp → Path → Bool
  | .openTrunc p, q => p == q
  | .write p _, q => p == q
  | .close p, q => p == q
  | .replace src dst, q => src == q || dst == q
  | .stat _, _ => false

theorem exec_untouched (d : Disk) (op : FsOp) (q : Path) (h : touches op q = false) :
    (exec d op).get q = d.get q ∧ (exec d op).pend q = d.pend q := by
  cases op with
  | openTrunc p =>
    simp [touches] at h
    have hq : q ≠ p := fun e => h e.symm
    exact ⟨lookup_put_other p q [] d.files hq, by simp [Disk.pend, exec, lookup_drop_other p q _ hq]⟩
  | write p bs =>
    simp [touches] at h
    have hq : q ≠ p := fun e => h e.symm
    exact ⟨rfl, by simp [Disk.pend, exec, lookup_put_other p q _ _ hq]⟩
  | close p =>
    simp [touches] at h
    have hq : q ≠ p := fun e => h e.symm
    simp only [exec]
    split
    · exact ⟨lookup_put_other p q _ d.files hq, by simp [Disk.pend, lookup_drop_other p q _ hq]⟩
    · exact ⟨rfl, by simp [Disk.pend, lookup_drop_other p q _ hq]⟩
  | stat p => exact ⟨rfl, rfl⟩
  | replace src dst =>
    simp [touches] at h
    have h1 : q ≠ src := fun e => h.1 e.symm
    have h2 : q ≠ dst := fun e => h.2 e.symm
    simp only [exec]
    split
    · refine ⟨?_, ?_⟩
      · show lookup q (drop src (put dst _ d.files)) = lookup q d.files
        rw [lookup_drop_other _ _ _ h1, lookup_put_other _ _ _ _ h2]
      · show (lookup q (drop src (put dst _ d.pending))).getD [] = (lookup q d.pending).getD []
        rw [lookup_drop_other _ _ _ h1, lookup_put_other _ _ _ _ h2]
    · exact ⟨rfl, rfl⟩

theorem observe_congr {d d' : Disk} {q : Path} (h1 : d'.get q = d.get q) (h2 : d'.pend q = d.pend q) :
    observe d' q = observe d q := by
  simp [observe, h1, h2]

/-- ops none of which acts on `q`: at every crash point `q` is what a crash before them would
have left -/
theorem crashContents_untouched (ops : List FsOp) :
    ∀ (d : Disk) (q : Path), (∀ op ∈ ops, touches op q = false) →
      ∀ c ∈ crashContents d ops q, c ∈ observe d q := by
  induction ops with
  | nil => intro d q _ c hc; exact hc
  | cons op rest ih =>
    intro d q h c hc
    simp only [crashContents, List.mem_append] at hc
    rcases hc with h0 | hr
    · exact h0
    · have := ih (exec d op) q (fun o ho => h o (List.mem_cons_of_mem _ ho)) c hr
      have hu := exec_untouched d op q (h op List.mem_cons_self)
      rwa [observe_congr hu.1 hu.2] at this

theorem run_untouched (ops : List FsOp) (d : Disk) (q : Path) (h : ∀ op ∈ ops, touches op q = false) :
    (run d ops).get q = d.get q ∧ (run d ops).pend q = d.pend q :=
  List.foldlRecOn ops exec (motive := fun d' => d'.get q = d.get q ∧ d'.pend q = d.pend q) ⟨rfl, rfl⟩
    fun d' hd op hop => have hu := exec_untouched d' op q (h op hop); ⟨hu.1.trans hd.1, hu.2.trans hd.2⟩

theorem crashContents_append (A B : List FsOp) :
    ∀ (d : Disk) (q : Path) (c : Option Bytes), c ∈ crashContents d (A ++ B) q →
      c ∈ crashContents d A q ∨ c ∈ crashContents (run d A) B q := by
  induction A with
  | nil =>
    intro d q c h
    exact Or.inr h
  | cons op rest ih =>
    intro d q c h
    simp only [List.cons_append, crashContents, List.mem_append] at h ⊢
    rcases h with h0 | hr
    · exact Or.inl (Or.inl h0)
    · rcases ih (exec d op) q c hr with h1 | h2
      · exact Or.inl (Or.inr h1)
      · exact Or.inr (by simpa [run] using h2)

theorem observe_sub_crashContents (d : Disk) (ops : List FsOp) (q : Path) :
    ∀ c ∈ observe d q, c ∈ crashContents d ops q := by
  cases ops with
  | nil => exact fun _ h => h
  | cons op rest => exact fun _ h => List.mem_append_left _ h

theorem observe_run_sub (ops : List FsOp) :
    ∀ (d : Disk) (q : Path), ∀ c ∈ observe (run d ops) q, c ∈ crashContents d ops q := by
  induction ops with
  | nil => exact fun _ _ _ h => h
  | cons op rest ih => exact fun d q c h => List.mem_append_right _ (ih (exec d op) q c h)

/-- FRAME RULE: operations before and after a program that do not act on `q` add nothing to what a crash
can show of `q` — before `A` it shows what it shows at the start of `S`, after `S` what it shows at its end -/
theorem crashContents_frame (A S B : List FsOp) (d : Disk) (q : Path)
    (hA : ∀ op ∈ A, touches op q = false) (hB : ∀ op ∈ B, touches op q = false) :
    ∀ c ∈ crashContents d (A ++ S ++ B) q, c ∈ crashContents (run d A) S q := by
  intro c hc
  have hu := run_untouched A d q hA
  rcases crashContents_append (A ++ S) B d q c hc with h1 | h2
  · rcases crashContents_append A S d q c h1 with h | h
    · exact observe_sub_crashContents _ _ _ c (observe_congr hu.1 hu.2 ▸ crashContents_untouched A d q hA c h)
    · exact h
  · have := crashContents_untouched B _ q hB c h2
    rw [show run d (A ++ S) = run (run d A) S from List.foldl_append ..] at this
    exact observe_run_sub S _ q c this

/-- with nothing pending on `q`, a crash shows exactly its committed content -/
theorem mem_observe_clean {d : Disk} {q : Path} {c : Option Bytes} (h : d.pend q = []) :
    c ∈ observe d q ↔ c = d.get q := by
  unfold observe
  cases d.get q <;> simp [h]

theorem after_write_tmp (d : Disk) (tmp : Path) (blob : Bytes) :
    (run d [FsOp.openTrunc tmp, .write tmp blob, .close tmp]).get tmp = some blob ∧
    (run d [FsOp.openTrunc tmp, .write tmp blob, .close tmp]).pend tmp = [] := by
  simp [run, exec, Disk.get, Disk.pend]

/-- when the atomic save completes the target holds the blob, nothing is pending on it, and the
temporary file is gone -/
theorem atomic_save_completes (d : Disk) (target tmp : Path) (blob : Bytes) (hne : tmp ≠ target) :
    (run d (saveSteps true target tmp blob)).get target = some blob ∧
    (run d (saveSteps true target tmp blob)).pend target = [] ∧
    (run d (saveSteps true target tmp blob)).get tmp = none := by
  have htmp := after_write_tmp d tmp blob
  have hrun : run d (saveSteps true target tmp blob)
      = exec (run d [FsOp.openTrunc tmp, .write tmp blob, .close tmp]) (.replace tmp target) := by
    simp only [saveSteps, if_true, run, List.foldl_cons, List.foldl_nil]
  rw [hrun]
  simp only [exec, htmp.1]
  refine ⟨?_, ?_, ?_⟩
  · show lookup target (drop tmp (put target blob _)) = some blob
    rw [lookup_drop_other _ _ _ hne.symm, lookup_put_same]
  · show (lookup target (drop tmp (put target _ _))).getD [] = []
    rw [lookup_drop_other _ _ _ hne.symm, lookup_put_same, htmp.2]
    rfl
  · exact lookup_drop_same tmp _

/-- ... and at every crash point on the way the target holds its previous content or the
complete new blob -/
theorem atomic_save_old_or_new (d : Disk) (target tmp : Path) (blob : Bytes) (hne : tmp ≠ target)
    (hclean : d.pend target = []) :
    ∀ c ∈ crashContents d (saveSteps true target tmp blob) target, c = d.get target ∨ c = some blob := by
  intro c hc
  have hA : ∀ op ∈ [FsOp.openTrunc tmp, .write tmp blob, .close tmp], touches op target = false := by
    intro op hop
    simp only [List.mem_cons, List.not_mem_nil, or_false] at hop
    rcases hop with rfl | rfl | rfl <;> exact beq_false_of_ne hne
  have hold := run_untouched _ d target hA
  -- the crash points that matter: just before the `replace` and after it
  have := crashContents_frame _ [.replace tmp target] [] d target hA nofun c hc
  simp only [crashContents, List.mem_append] at this
  rcases this with h0 | h3
  · exact Or.inl (hold.1 ▸ (mem_observe_clean (hold.2.trans hclean)).mp h0)
  · have hdone := atomic_save_completes d target tmp blob hne
    simp only [saveSteps, if_true, run, List.foldl_cons, List.foldl_nil] at hdone h3
    exact Or.inr (hdone.1 ▸ (mem_observe_clean hdone.2.1).mp h3)

theorem saveSteps_touches (atomic : Bool) (t tmp : Path) (blob : Bytes) (q : Path) (h1 : q ≠ t) (h2 : q ≠ tmp) :
    ∀ op ∈ saveSteps atomic t tmp blob, touches op q = false := by
  have ht : (t == q) = false := beq_false_of_ne (Ne.symm h1)
  have htmp : (tmp == q) = false := beq_false_of_ne (Ne.symm h2)
  intro op hop
  unfold saveSteps at hop
  cases atomic
  · -- plain: open, write and close act on the target
    simp only [Bool.false_eq_true, if_false, List.mem_cons, List.not_mem_nil, or_false] at hop
    rcases hop with rfl | rfl | rfl <;> exact ht
  · -- atomic: open, write and close act on the temporary file, the replace on both
    simp only [if_true, List.mem_cons, List.not_mem_nil, or_false] at hop
    rcases hop with rfl | rfl | rfl | rfl
    · exact htmp
    · exact htmp
    · exact htmp
    · exact Bool.or_eq_false_iff.mpr ⟨htmp, ht⟩

theorem flushSteps_touches (atomic : Bool) (items : List FlushItem) (q : Path)
    (h : ∀ it ∈ items, q ≠ it.target ∧ q ≠ it.tmp) :
    ∀ op ∈ flushSteps atomic items, touches op q = false := by
  induction items with
  | nil => exact fun _ h => nomatch h
  | cons it rest ih =>
    intro op hop
    simp only [flushSteps, List.mem_cons, List.mem_append] at hop
    rcases hop with rfl | hs | hr
    · rfl
    · exact saveSteps_touches atomic it.target it.tmp it.blob q (h it List.mem_cons_self).1
        (h it List.mem_cons_self).2 op hs
    · exact ih (fun x hx => h x (List.mem_cons_of_mem _ hx)) op hr

theorem flushSteps_append (atomic : Bool) (l1 l2 : List FlushItem) :
    flushSteps atomic (l1 ++ l2) = flushSteps atomic l1 ++ flushSteps atomic l2 := by
  induction l1 with
  | nil => rfl
  | cons x xs ih => simp [flushSteps, ih]

/-- C08 for a buffer flush of any number of files: with atomic saves, at EVERY crash point
every flushed file holds its previous content or its complete new content. -/
theorem flush_old_or_new (items : List FlushItem) :
    (items.map (·.target)).Nodup →
    (∀ a ∈ items, ∀ b ∈ items, a.tmp ≠ b.target) →
    ∀ (d : Disk), (∀ it ∈ items, d.pend it.target = []) →
    ∀ it ∈ items, ∀ c ∈ crashContents d (flushSteps true items) it.target,
      c = d.get it.target ∨ c = some it.blob := by
  intro hnd htmp d hclean it hit c hc
  obtain ⟨l1, l2, rfl⟩ := List.append_of_mem hit
  -- the flush is: the other files before, `it`, the other files after; the others do not act on `it.target`
  have hoth : ∀ y ∈ l1 ++ l2, it.target ≠ y.target ∧ it.target ≠ y.tmp := by
    -- `it` in the middle of a list without repetition: its target is not among the others'
    rw [List.map_append, List.map_cons, List.perm_middle.nodup_iff, List.nodup_cons, ← List.map_append] at hnd
    intro y hy
    have hy' : y ∈ l1 ++ it :: l2 := List.perm_middle.mem_iff.mpr (List.mem_cons_of_mem _ hy)
    exact ⟨fun e => hnd.1 (List.mem_map.mpr ⟨y, hy, e.symm⟩), fun e => htmp y hy' it hit e.symm⟩
  have hA : ∀ op ∈ flushSteps true l1 ++ [FsOp.stat it.target], touches op it.target = false :=
    List.forall_mem_append.mpr ⟨flushSteps_touches true l1 _ fun y hy => hoth y (List.mem_append_left _ hy),
      List.forall_mem_singleton.mpr rfl⟩
  have hB := flushSteps_touches true l2 it.target fun y hy => hoth y (List.mem_append_right _ hy)
  rw [show flushSteps true (l1 ++ it :: l2) = (flushSteps true l1 ++ [.stat it.target]) ++
    saveSteps true it.target it.tmp it.blob ++ flushSteps true l2 by simp [flushSteps_append, flushSteps]] at hc
  -- so a crash shows of `it.target` what it shows during the save of `it` alone
  have hu := run_untouched _ d it.target hA
  have := atomic_save_old_or_new _ it.target it.tmp it.blob (htmp it hit it hit) (hu.2.trans (hclean it hit)) c
    (crashContents_frame _ _ _ d it.target hA hB c hc)
  rwa [hu.1] at this

end SC.FS
