/-
Unique keys along histories.  A Python dict has no duplicate keys; the model's association lists
have none either (`wf`) in every reachable state — through every merge (raising or not), every
operation body and every store through a handle — provided the data that comes from outside
(arguments, constructor data, outside writers) has none, which for Python values is automatic.
This discharges the last state hypothesis of the refinement steps.
-/
import SC.Lemmas.IdHist
namespace SC
variable {ι : Type}

/-- the data an operation brings in has no duplicate keys (automatic for Python values) -/
def Op.argsWf : Op → Bool
  | .dSetitem _ v => v.wf
  | .dSetdefault _ d => d.wf
  | .dUpdate other kw => other.all (fun kv => kv.2.wf) && kw.all (fun kv => kv.2.wf)
  | .dReset v => v.wf
  | .lSetitem _ v => v.wf
  | .lInsert _ v => v.wf
  | .lAppend v => v.wf
  | .lExtend v => v.wf
  | .lIadd v => v.wf
  | .lReset v => v.wf
  | _ => true

theorem dmutRes_wf (i : Nat) (kvs : List (Key × T)) (m : DictMut T) (n : Nat) (hk : Tr.wfKV kvs = true)
    (hnew : ∀ kv ∈ DictMut.news m, kv.2.wf = true) : (dmutRes (.dict i kvs) i kvs m n).node.wf = true := by
  unfold dmutRes
  cases h : dictMut kvs m with
  | error e => exact hk
  | ok r =>
    change Tr.wfKV r.data = true
    rcases (dictMut_sel kvs m r h).1 with ⟨k, v, rfl, hd⟩ | hs
    · rw [hd]; exact wfKV_setKey kvs k v hk (hnew (k, v) (List.mem_singleton_self _))
    · exact wfKV_sublist hs hk

theorem lmutRes_wf (i : Nat) (xs : List T) (m : ListMut T) (n : Nat) (hk : Tr.wfL xs = true)
    (hnew : ∀ x ∈ ListMut.news m, x.wf = true) : (lmutRes (.list i xs) i xs m n).node.wf = true := by
  unfold lmutRes
  cases h : listMut xs m with
  | error e => exact hk
  | ok r =>
    refine wfL_iff.mpr fun x hx => ?_
    rcases List.mem_append.mp ((listMut_subp xs m r h).subset x hx) with hm | hm
    · exact wfL_iff.mp hk x hm
    · exact hnew x hm

theorem iterate_wf (t : Tr ι) (vs : List (Tr ι)) (ht : t.wf = true) (h : iterate t = .ok vs) :
    ∀ x ∈ vs, x.wf = true := by
  rcases iterate_cases h with ⟨i, rfl⟩ | hleaves
  · exact wfL_iff.mp ht
  · intro x hx
    rcases hleaves x hx with ⟨s, rfl⟩ | ⟨i, rfl⟩ <;> rfl

theorem overrideOrder_wf (cur : List (Key × T)) (m : List (Key × J)) (hc : Tr.wfKV cur = true)
    (hm : Tr.wfKV m = true) : Tr.wfKV (overrideOrder cur m) = true := by
  -- the first part, taken from any part `l` of `cur`: its keys are keys of `l`
  have hkey : ∀ (l : List (Key × T)) (k : Key),
      Tr.hasKey k (l.filterMap fun kv => (Tr.lookup kv.1 m).map fun v => (kv.1, v)) = true → Tr.hasKey k l = true := by
    intro l k h
    obtain ⟨w, hw⟩ := (hasKey_iff_lookup k _).mp h
    obtain ⟨src, hsrc, hmap⟩ := List.mem_filterMap.mp (mem_of_lookup hw)
    obtain ⟨_, -, e⟩ := Option.map_eq_some_iff.mp hmap
    cases e
    exact hasKey_of_mem hsrc
  -- so it has no key twice, and its values are values of `m`
  have hA : ∀ l : List (Key × T), Tr.wfKV l = true →
      Tr.wfKV (l.filterMap fun kv => (Tr.lookup kv.1 m).map fun v => (kv.1, v)) = true := by
    intro l
    induction l with
    | nil => exact fun _ => rfl
    | cons q qs ih =>
      intro hl
      obtain ⟨hq, -, hqs⟩ := wfKV_cons.mp hl
      rw [List.filterMap_cons]
      cases hlk : Tr.lookup q.1 m with
      | none => exact ih hqs
      | some w =>
        exact wfKV_cons.mpr ⟨Bool.eq_false_iff.mpr fun h => Bool.false_ne_true (hq.symm.trans (hkey qs q.1 h)),
          wf_of_lookup hm hlk, ih hqs⟩
  -- the second part has the keys that are not in `cur`
  refine wfKV_append_of_disjoint _ _ (hA cur hc) (wfKV_filter m _ hm) fun kv hkv => Bool.eq_false_iff.mpr fun h => ?_
  obtain ⟨w, hw⟩ := (hasKey_iff_lookup kv.1 _).mp h
  have := (List.mem_filter.mp (mem_of_lookup hw)).2
  rw [hkey cur kv.1 (hasKey_of_mem hkv)] at this
  exact Bool.noConfusion this

theorem runBody_wf (fam : Fam) (t : T) (op : Op) (n : Nat) (ht : t.wf = true) (ha : Op.argsWf op = true) :
    (runBody fam t op n).node.wf = true := by
  cases t with
  | leaf s => rw [runBody_leaf]; exact ht
  | dict i kvs =>
    have hk : Tr.wfKV kvs = true := ht
    cases op with
    | dSetitem k v =>
      exact dmutRes_wf i kvs (.setitem k _) _ hk (List.forall_mem_singleton.mpr (wf_fromBase v n ha))
    | dDelitem _ | dPop _ _ | dPopitem | dClear => exact dmutRes_wf i kvs _ n hk (List.forall_mem_nil _)
    | dSetdefault k d =>
      rw [runBody_dSetdefault]
      split
      · exact ht
      · split
        · exact ht
        · exact wfKV_setKey kvs k _ hk (wf_fromBase d n ha)
    | dUpdate other kw =>
      obtain ⟨ho, hkw⟩ := Bool.and_eq_true_iff.mp ha
      exact updDictLoop_wf fam _ kvs n hk (overrideOrder_wf kvs _ hk
        (foldl_setKey_wf kw _ (foldl_setKey_wf other [] rfl (List.all_eq_true.mp ho)) (List.all_eq_true.mp hkw)))
    | dReset v => exact updNode_wf fam v _ n ht ha
    | dRead rd => rw [runBody_dRead]; split <;> exact ht
    | _ => exact ht
  | list i xs =>
    have hk : Tr.wfL xs = true := ht
    cases op with
    | lSetitem ix v =>
      cases ix with
      | i j => exact lmutRes_wf i xs (.setitem j _) _ hk (List.forall_mem_singleton.mpr (wf_fromBase v n ha))
      | sl sl =>
        rw [runBody_lSetslice]
        split
        · exact ht
        · next vs hit => exact lmutRes_wf i xs _ _ hk (iterate_wf _ vs (wf_fromBase v n ha) hit)
    | lInsert j v => exact lmutRes_wf i xs (.insert j _) _ hk (List.forall_mem_singleton.mpr (wf_fromBase v n ha))
    | lAppend v => exact lmutRes_wf i xs (.append _) _ hk (List.forall_mem_singleton.mpr (wf_fromBase v n ha))
    | lExtend v | lIadd v =>
      simp only [runBody_lIadd, runBody_lExtend]
      split
      · exact ht
      · next vs hit =>
        exact lmutRes_wf i xs _ _ hk (wfL_iff.mp (wfL_fromBaseL vs n (wfL_iff.mpr (iterate_wf v vs ha hit))))
    | lDelitem _ | lRemove _ | lClear | lPop _ | lReverse => exact lmutRes_wf i xs _ n hk (List.forall_mem_nil _)
    | lReset v => exact updNode_wf fam v _ n ht ha
    | lRead rd => rw [runBody_lRead]; split <;> exact ht
    | _ => exact ht

/-- no duplicate keys in the objects' trees and in the backends (detached nodes are not covered) -/
structure WfOK (s : State) : Prop where
  objs : ∀ o ∈ s.objs, o.root.wf = true
  stores : ∀ p ∈ s.stores, p.2.wf = true

theorem store_wf {s : State} (h : WfOK s) {r : Nat} {d : J} (hs : s.store r = some d) : d.wf = true := by
  obtain ⟨p, hf, rfl⟩ := Option.map_eq_some_iff.mp hs
  exact h.stores p (List.mem_of_find?_eq_some hf)

theorem WfOK.congr {s s' : State} (h : WfOK s) (ho : s'.objs = s.objs) (hs : s'.stores = s.stores) : WfOK s' :=
  ⟨by rw [ho]; exact h.objs, by rw [hs]; exact h.stores⟩

theorem WfOK.set {s s' : State} (h : WfOK s) (oi : Nat) (o : Obj) (new : T) (hn : new.wf = true)
    (ho : s'.objs = s.objs.set oi { o with root := new }) (hs : s'.stores = s.stores) : WfOK s' := by
  refine ⟨?_, by rw [hs]; exact h.stores⟩
  rw [ho]
  intro x hx
  rcases List.mem_or_eq_of_mem_set hx with hm | rfl
  · exact h.objs x hm
  · exact hn

theorem WfOK.setStore {s : State} (h : WfOK s) (r : Nat) (d : J) (hd : d.wf = true) : WfOK (s.setStore r d) :=
  ⟨h.objs, fun p hp => (State.mem_setStore hp).elim (· ▸ hd) (h.stores p)⟩

theorem loadRoot_wfOK (s : State) (oi : Nat) (h : WfOK s) : WfOK (loadRoot s oi).1 := by
  rcases loadRoot_cases s oi with h1 | ⟨o, d, ho, hst, -⟩
  · rw [h1]; exact h
  · exact h.set oi o _
      (updNode_wf (s.fam o) d o.root s.next (h.objs o (List.mem_of_getElem? ho)) (store_wf h hst))
      (loadRoot_objs ho hst) (loadRoot_stores s oi)

theorem applyBody_wfOK (fam : Fam) (s1 : State) (h : Handle) (oi : Nat) (t : T) (op : Op) (hok : WfOK s1)
    (ha : Op.argsWf op = true) (hnode : handleNode s1 h = some t) :
    WfOK (applyBody s1 h oi (runBody fam t op s1.next)) := by
  rcases handleNode_cases hnode with ⟨o', ob, rfl, hob, rfl⟩ | ⟨id, rfl, hfs⟩ | ⟨id, rfl, hfs, -⟩
  · exact hok.set o' ob _ (runBody_wf fam ob.root op s1.next (hok.objs ob (List.mem_of_getElem? hob)) ha)
      (by rw [applyBody_objs, putNode_root hob]; rfl) (applyBody_stores ..)
  · -- the node sits in an object's tree: every tree gets the new node in place of the old, if at all
    refine ⟨?_, by rw [applyBody_stores]; exact hok.stores⟩
    obtain ⟨o, ho, hf⟩ := List.exists_of_findSome?_eq_some hfs
    have hnew := runBody_wf fam t op s1.next (find_wf id o.root t (hok.objs o ho) hf) ha
    simp only [applyBody_objs, putNode, replaceNode]
    intro x hx
    obtain ⟨o', ho', rfl⟩ := List.mem_map.mp hx
    exact replace_wf id _ hnew o'.root (hok.objs o' ho')
  · -- a detached node: no object's tree holds the identity, nothing changes
    have hnot := not_mem_flat_of_findSome_none id s1.objs hfs
    exact hok.congr (by rw [applyBody_objs]; exact map_replace_of_not_mem id _ s1.objs hnot) (applyBody_stores ..)

theorem saveRoot_wfOK (s : State) (oi : Nat) (h : WfOK s) : WfOK (saveRoot s oi) := by
  unfold saveRoot
  split
  · exact h
  · next o ho =>
    exact h.setStore _ _ (by simp only [Tr.toBase, wf_map]; exact h.objs o (List.mem_of_getElem? ho))

theorem call_wfOK (s : State) (h : Handle) (op : Op) (hok : WfOK s) (ha : Op.argsWf op = true) :
    WfOK (call s h op).1 :=
  call_preserves hok (fun oi => loadRoot_wfOK s oi hok)
    (fun {oi _ o _ s1 t} c h1 => applyBody_wfOK (s.fam o) s1 h oi t op h1 ha c.hnode)
    (fun _ s2 oi h2 => saveRoot_wfOK s2 oi h2)

theorem openObj_wfOK (s : State) (fam : Nat) (isDict : Bool) (res : Nat) (data : Option J) (hok : WfOK s)
    (hd : ∀ d, data = some d → d.wf = true) : WfOK (openObj s fam isDict res data).1 := by
  rcases openObj_cases s fam isDict res data with h | ⟨d, h, hdata⟩ <;> rw [h]
  · exact hok
  · have hw : (fromBase d s.next).1.wf = true := by
      refine wf_fromBase d s.next ?_
      rcases hdata with ⟨-, rfl⟩ | ⟨rfl, -⟩
      · split <;> rfl
      · exact hd d rfl
    refine ⟨?_, by rw [State.own_stores]; exact hok.stores⟩
    rw [State.own_objs]
    exact List.forall_mem_append.mpr ⟨hok.objs, List.forall_mem_singleton.mpr hw⟩

theorem empty_wfOK (fams : List Fam) : WfOK (State.empty fams) :=
  ⟨List.forall_mem_nil _, List.forall_mem_nil _⟩

def SStep.argsWf : SStep → Bool
  | .call _ op => Op.argsWf op
  | .openObj _ _ data => match data with
    | some d => d.wf
    | none => true
  | .ext _ d => d.wf

theorem sstep_wfOK (s : State) (st : SStep) (h : WfOK s) (ha : SStep.argsWf st = true) : WfOK (sstep s st) := by
  cases st with
  | call hd op => exact call_wfOK s hd op h ha
  | openObj d r data => exact openObj_wfOK s 0 d r data h (fun x hx => by subst hx; exact ha)
  | ext r d => exact h.setStore r d ha

theorem srun_wfOK (history : List SStep) (s : State) (h : WfOK s)
    (ha : ∀ st ∈ history, SStep.argsWf st = true) : WfOK (srun s history) :=
  srun_induct h (fun s st hst h => sstep_wfOK s st h (ha st hst))

end SC
