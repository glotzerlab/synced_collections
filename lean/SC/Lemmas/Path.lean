/-
Paths versus identities.  The code addresses a nested collection through the Python object the
user holds (its identity); the properties speak about positions ("the child at a['x'][2]").  With
pairwise distinct identities in a tree the two coincide: the node found by identity is the node
at the path, and replacing by identity is replacing at the path.
-/
import SC.Lemmas.Find
namespace SC
variable {ι : Type}

inductive Seg where
  | key (k : Key)
  | idx (j : Nat)
deriving Repr, DecidableEq

def Tr.sub : List Seg → Tr ι → Option (Tr ι)
  | [], t => some t
  | .key k :: p, .dict _ kvs => (Tr.lookup k kvs).bind (Tr.sub p)
  | .idx j :: p, .list _ xs => (xs[j]?).bind (Tr.sub p)
  | _ :: _, _ => none

/-- replace the node at a path (a path that does not exist: no change) -/
def Tr.setSub : List Seg → Tr ι → Tr ι → Tr ι
  | [], _, new => new
  | .key k :: p, .dict i kvs, new =>
    match Tr.lookup k kvs with
    | some c => .dict i (Tr.setKey k (Tr.setSub p c new) kvs)
    | none => .dict i kvs
  | .idx j :: p, .list i xs, new =>
    match xs[j]? with
    | some c => .list i (xs.set j (Tr.setSub p c new))
    | none => .list i xs
  | _ :: _, t, _ => t

/-- one step of a path: the value under a key of a dict, the element at an index of a list -/
def Tr.child : Seg → Tr ι → Option (Tr ι)
  | .key k, .dict _ kvs => Tr.lookup k kvs
  | .idx j, .list _ xs => xs[j]?
  | _, _ => none

/-- put `v` at one step (`setKey` / `List.set`); a step that does not fit the kind of the node changes nothing -/
def Tr.setChild : Seg → Tr ι → Tr ι → Tr ι
  | .key k, .dict i kvs, v => .dict i (Tr.setKey k v kvs)
  | .idx j, .list i xs, v => .list i (xs.set j v)
  | _, t, _ => t

/-- memory and data are containers of the same kind: two dicts or two lists -/
def sameKind {κ : Type} : T → Tr κ → Bool
  | .dict _ _, .dict _ _ => true
  | .list _ _, .list _ _ => true
  | _, _ => false

/-- along the whole path, memory and data hold containers of the same kind -/
def kindsMatch {κ : Type} : List Seg → T → Tr κ → Bool
  | [], t, d => sameKind t d
  | .key k :: p, .dict _ kvs, .dict _ dkvs =>
    match Tr.lookup k kvs, Tr.lookup k dkvs with
    | some c, some dc => kindsMatch p c dc
    | _, _ => false
  | .idx j :: p, .list _ xs, .list _ dxs =>
    match xs[j]?, dxs[j]? with
    | some c, some dc => kindsMatch p c dc
    | _, _ => false
  | _ :: _, _, _ => false

theorem sub_cons (s : Seg) (p : List Seg) (t : Tr ι) : Tr.sub (s :: p) t = (Tr.child s t).bind (Tr.sub p) := by
  cases s <;> cases t <;> rfl

theorem sub_cons_some {s : Seg} {p : List Seg} {t c : Tr ι} (h : Tr.sub (s :: p) t = some c) :
    ∃ x, Tr.child s t = some x ∧ Tr.sub p x = some c :=
  Option.bind_eq_some_iff.mp (sub_cons s p t ▸ h)

theorem setSub_cons (s : Seg) (p : List Seg) (t new : Tr ι) :
    Tr.setSub (s :: p) t new =
      match Tr.child s t with
      | some c => Tr.setChild s t (Tr.setSub p c new)
      | none => t := by
  cases s <;> cases t <;> rfl

theorem child_key {k : Key} {t c : Tr ι} (h : Tr.child (.key k) t = some c) :
    ∃ i kvs, t = .dict i kvs ∧ Tr.lookup k kvs = some c := by
  cases t with
  | dict i kvs => exact ⟨i, kvs, rfl, h⟩
  | _ => cases h

theorem child_idx {j : Nat} {t c : Tr ι} (h : Tr.child (.idx j) t = some c) :
    ∃ i xs, t = .list i xs ∧ xs[j]? = some c := by
  cases t with
  | list i xs => exact ⟨i, xs, rfl, h⟩
  | _ => cases h

theorem kindsMatch_cons_eq {κ : Type} (s : Seg) (p : List Seg) (t : T) (d : Tr κ) :
    kindsMatch (s :: p) t d =
      (sameKind t d && match Tr.child s t, Tr.child s d with
        | some c, some dc => kindsMatch p c dc
        | _, _ => false) := by
  cases s <;> cases t <;> cases d <;> rfl

theorem kindsMatch_cons {κ : Type} {s : Seg} {p : List Seg} {t : T} {d : Tr κ}
    (h : kindsMatch (s :: p) t d = true) :
    sameKind t d = true ∧
      ∃ c dc, Tr.child s t = some c ∧ Tr.child s d = some dc ∧ kindsMatch p c dc = true := by
  rw [kindsMatch_cons_eq, Bool.and_eq_true] at h
  obtain ⟨hk, h⟩ := h
  refine ⟨hk, ?_⟩
  split at h
  · next c dc hc hdc => exact ⟨c, dc, hc, hdc, h⟩
  · cases h

theorem kindsMatch_sameKind {κ : Type} : ∀ (p : List Seg) (t : T) (d : Tr κ), kindsMatch p t d = true →
    sameKind t d = true
  | [], _, _, h => h
  | _ :: _, _, _, h => (kindsMatch_cons h).1

theorem ne_null_of_sameKind {t : T} {d : Tr ι} (h : sameKind t d = true) : d ≠ .leaf .null := by
  rintro rfl
  cases t <;> cases h

theorem child_mem_kids {s : Seg} {t c : Tr ι} (h : Tr.child s t = some c) : c ∈ t.kids := by
  cases s with
  | key k =>
    obtain ⟨i, kvs, rfl, h⟩ := child_key h
    exact List.mem_map_of_mem (f := (·.2)) (mem_of_lookup h)
  | idx j =>
    obtain ⟨i, xs, rfl, h⟩ := child_idx h
    exact List.mem_of_getElem? h

theorem child_setChild {s : Seg} {t c : Tr ι} (v : Tr ι) (h : Tr.child s t = some c) :
    Tr.child s (Tr.setChild s t v) = some v := by
  cases s with
  | key k =>
    obtain ⟨i, kvs, rfl, -⟩ := child_key h
    exact lookup_setKey_same _ _ _
  | idx j =>
    obtain ⟨i, xs, rfl, h⟩ := child_idx h
    exact List.getElem?_set_self (List.getElem?_eq_some_iff.mp h).1

theorem child_map {κ : Type} (f : ι → κ) (s : Seg) (t : Tr ι) :
    Tr.child s (t.map f) = (Tr.child s t).map (Tr.map f) := by
  cases s <;> cases t <;> simp [Tr.child, Tr.map, lookup_mapKV, mapL_eq_map]

theorem setChild_map {κ : Type} (f : ι → κ) (s : Seg) (t v : Tr ι) :
    (Tr.setChild s t v).map f = Tr.setChild s (t.map f) (v.map f) := by
  cases s <;> cases t <;> simp [Tr.setChild, Tr.map, setKey_mapKV, mapL_eq_map, List.map_set]

/-- the child at a step stands between the children before and after it; changing those that `g`
changes nowhere else amounts to setting the child -/
theorem child_split {s : Seg} {t c : Tr ι} (h : Tr.child s t = some c) :
    ∃ l₁ l₂, t.kids = l₁ ++ c :: l₂ ∧
      ∀ g : Tr ι → Tr ι, (∀ y ∈ l₁ ++ l₂, g y = y) → t.mapKids g = Tr.setChild s t (g c) := by
  cases s with
  | key k =>
    obtain ⟨i, kvs, rfl, h⟩ := child_key h
    obtain ⟨l₁, l₂, rfl, hs, _⟩ := lookup_split h
    refine ⟨l₁.map (·.2), l₂.map (·.2), by simp [Tr.kids], fun g hg => ?_⟩
    simp only [Tr.mapKids, Tr.setChild, hs, List.map_append, List.map_cons]
    rw [mapSnd_eq_self fun kv hkv => hg _ (List.mem_append_left _ (List.mem_map_of_mem hkv)),
      mapSnd_eq_self fun kv hkv => hg _ (List.mem_append_right _ (List.mem_map_of_mem hkv))]
  | idx j =>
    obtain ⟨i, xs, rfl, h⟩ := child_idx h
    have hj := (List.getElem?_eq_some_iff.mp h).1
    have hx : xs = xs.take j ++ c :: xs.drop (j + 1) := by
      rw [← (List.getElem?_eq_some_iff.mp h).2, List.getElem_cons_drop, List.take_append_drop]
    refine ⟨xs.take j, xs.drop (j + 1), hx, fun g hg => ?_⟩
    simp only [Tr.mapKids, Tr.setChild, List.set_eq_take_append_cons_drop, hj, if_true]
    conv => lhs; rw [hx]
    rw [List.map_append, List.map_cons, map_eq_self fun y hy => hg y (List.mem_append_left _ hy),
      map_eq_self fun y hy => hg y (List.mem_append_right _ hy)]

theorem id_mem_of_sub : ∀ (p : List Seg) (t c : T) (h : Nat), Tr.sub p t = some c → c.id? = some h →
    h ∈ Tr.ids t
  | [] => fun t c h hs hi => by cases hs; exact mem_ids_of_id? hi
  | s :: p => fun t c h hs hi => by
    obtain ⟨x, hx, hs⟩ := sub_cons_some hs
    exact (ids_kid_sublist (child_mem_kids hx)).subset (id_mem_of_sub p x c h hs hi)

theorem not_mem_siblings {t c : T} {l₁ l₂ : List T} {h : Nat} (hn : (Tr.ids t).Nodup)
    (hk : t.kids = l₁ ++ c :: l₂) (hm : h ∈ Tr.ids c) :
    t.id? ≠ some h ∧ ∀ y ∈ l₁ ++ l₂, h ∉ Tr.ids y := by
  rw [ids_eq, hk, List.flatMap_append, List.flatMap_cons] at hn
  -- `ids t` is the node's own identity, then `l₁`'s, `c`'s, `l₂`'s: four pairwise disjoint parts
  have h1 := List.nodup_append.mp hn
  have h2 := List.nodup_append.mp h1.2.1
  have h3 := List.nodup_append.mp h2.2.1
  refine ⟨fun e => h1.2.2 h (Option.mem_toList.mpr e) h
    (List.mem_append_right _ (List.mem_append_left _ hm)) rfl, fun y hy hmy => ?_⟩
  rcases List.mem_append.mp hy with hy | hy
  · exact h2.2.2 h (List.mem_flatMap.mpr ⟨y, hy, hmy⟩) h (List.mem_append_left _ hm) rfl
  · exact h3.2.2 h hm h (List.mem_flatMap.mpr ⟨y, hy, hmy⟩) rfl

theorem find_child {s : Seg} {t x : T} {h : Nat} (hn : (Tr.ids t).Nodup) (hx : Tr.child s t = some x)
    (hm : h ∈ Tr.ids x) : Tr.find h t = Tr.find h x := by
  obtain ⟨l₁, l₂, hk, _⟩ := child_split hx
  obtain ⟨hi, hs⟩ := not_mem_siblings hn hk hm
  rw [find_eq, if_neg hi, hk, List.findSome?_append,
    List.findSome?_eq_none_iff.mpr fun y hy => find_eq_none_iff.mpr (hs y (List.mem_append_left _ hy)),
    Option.none_or, List.findSome?_cons]
  cases hf : Tr.find h x with
  | some c => rfl
  | none => exact absurd hm (find_eq_none_iff.mp hf)

theorem replace_child {s : Seg} {t x : T} {h : Nat} (new : T) (hn : (Tr.ids t).Nodup)
    (hx : Tr.child s t = some x) (hm : h ∈ Tr.ids x) :
    Tr.replace h new t = Tr.setChild s t (Tr.replace h new x) := by
  obtain ⟨l₁, l₂, hk, hg⟩ := child_split hx
  obtain ⟨hi, hs⟩ := not_mem_siblings hn hk hm
  rw [replace_eq, if_neg hi]
  exact hg _ fun y hy => replace_of_not_mem h new y (hs y hy)

/-- with pairwise distinct identities, the node found BY IDENTITY is the node AT THE PATH -/
theorem find_of_sub : ∀ (p : List Seg) (t c : T) (h : Nat), (Tr.ids t).Nodup → Tr.sub p t = some c →
    c.id? = some h → Tr.find h t = some c
  | [] => fun t c h _ hs hi => by cases hs; rw [find_eq, if_pos hi]
  | s :: p => fun t c h hn hs hi => by
    obtain ⟨x, hx, hs⟩ := sub_cons_some hs
    rw [find_child hn hx (id_mem_of_sub p x c h hs hi)]
    exact find_of_sub p x c h (hn.sublist (ids_kid_sublist (child_mem_kids hx))) hs hi

/-- ... and replacing BY IDENTITY is replacing AT THE PATH -/
theorem replace_of_sub (new : T) : ∀ (p : List Seg) (t c : T) (h : Nat), (Tr.ids t).Nodup →
    Tr.sub p t = some c → c.id? = some h → Tr.replace h new t = Tr.setSub p t new
  | [] => fun t c h _ hs hi => by cases hs; rw [replace_eq, if_pos hi]; rfl
  | s :: p => fun t c h hn hs hi => by
    obtain ⟨x, hx, hs⟩ := sub_cons_some hs
    rw [replace_child new hn hx (id_mem_of_sub p x c h hs hi), setSub_cons, hx,
      replace_of_sub new p x c h (hn.sublist (ids_kid_sublist (child_mem_kids hx))) hs hi]

theorem sub_setSub_same : ∀ (p : List Seg) (t c new : Tr ι), Tr.sub p t = some c →
    Tr.sub p (Tr.setSub p t new) = some new
  | [] => fun _ _ _ _ => rfl
  | s :: p => fun t c new hs => by
    obtain ⟨x, hx, hs⟩ := sub_cons_some hs
    rw [setSub_cons, hx, sub_cons, child_setChild _ hx]
    exact sub_setSub_same p x c new hs

/-- forgetting identities commutes with replacing at a path: the CONTENT after the replacement is
the old content with the content of the new node at that path, everything else as it was -/
theorem toBase_setSub : ∀ (p : List Seg) (t new : Tr ι),
    (Tr.setSub p t new).toBase = Tr.setSub p t.toBase new.toBase
  | [], _, _ => rfl
  | s :: p, t, new => by
    simp only [Tr.toBase, setSub_cons, child_map]
    cases Tr.child s t with
    | none => rfl
    | some x => exact (setChild_map _ s t _).trans (congrArg _ (toBase_setSub p x new))

theorem sub_map {κ : Type} (f : ι → κ) : ∀ (p : List Seg) (t : Tr ι),
    Tr.sub p (t.map f) = (Tr.sub p t).map (Tr.map f)
  | [], _ => rfl
  | s :: p, t => by
    rw [sub_cons, sub_cons, child_map]
    cases Tr.child s t with
    | none => rfl
    | some x => exact sub_map f p x

end SC
