/-
Tie between the hand-written operation model and the source: the model's classification of every
mutating operation (which context wraps its body, whether the argument is validated BEFORE the
synchronisation context is entered) against the method summaries the translator derives from the
AST of every concrete class.
-/
import SC.Seq
import SC.Table
namespace SC

/-- the mutating operations of the model, without their arguments -/
inductive OpKind where
  | dSetitem | dDelitem | dPop | dPopitem | dClear | dUpdate | dSetdefault | dReset
  | lSetitem | lDelitem | lInsert | lAppend | lExtend | lIadd | lRemove | lClear | lPop | lReverse | lReset
deriving DecidableEq, Repr

def OpKind.all : List OpKind :=
  [.dSetitem, .dDelitem, .dPop, .dPopitem, .dClear, .dUpdate, .dSetdefault, .dReset,
   .lSetitem, .lDelitem, .lInsert, .lAppend, .lExtend, .lIadd, .lRemove, .lClear, .lPop, .lReverse, .lReset]

def Op.kind? : Op → Option OpKind
  | .dSetitem _ _ => some .dSetitem | .dDelitem _ => some .dDelitem | .dPop _ _ => some .dPop
  | .dPopitem => some .dPopitem | .dClear => some .dClear | .dUpdate _ _ => some .dUpdate
  | .dSetdefault _ _ => some .dSetdefault | .dReset _ => some .dReset
  | .lSetitem _ _ => some .lSetitem | .lDelitem _ => some .lDelitem | .lInsert _ _ => some .lInsert
  | .lAppend _ => some .lAppend | .lExtend _ => some .lExtend | .lIadd _ => some .lIadd
  | .lRemove _ => some .lRemove | .lClear => some .lClear | .lPop _ => some .lPop
  | .lReverse => some .lReverse | .lReset _ => some .lReset
  | .dRead _ | .lRead _ => none

namespace OpKind

/-- the Python method that implements the operation -/
def method : OpKind → String
  | .dSetitem | .lSetitem => "__setitem__"
  | .dDelitem | .lDelitem => "__delitem__"
  | .dPop | .lPop => "pop"
  | .dPopitem => "popitem"
  | .dClear | .lClear => "clear"
  | .dUpdate => "update"
  | .dSetdefault => "setdefault"
  | .dReset | .lReset => "reset"
  | .lInsert => "insert"
  | .lAppend => "append"
  | .lExtend => "extend"
  | .lIadd => "__iadd__"
  | .lRemove => "remove"
  | .lReverse => "reverse"

def onDict : OpKind → Bool
  | .dSetitem | .dDelitem | .dPop | .dPopitem | .dClear | .dUpdate | .dSetdefault | .dReset => true
  | _ => false

/-- the model runs the body in the overwrite context (no load at root level) -/
def isOverwrite : OpKind → Bool
  | .dClear | .lClear | .dReset | .lReset => true
  | _ => false

/-- the model validates the argument before anything is touched (`preValidate`) -/
def validatesBefore : OpKind → Bool
  | .dSetitem | .lSetitem | .lInsert | .lAppend | .lExtend | .lIadd => true
  | _ => false

end OpKind

/-- the classification used by `call` is the one of the operation's kind -/
theorem Op.isOverwrite_kind (op : Op) (k : OpKind) (h : op.kind? = some k) : op.isOverwrite = k.isOverwrite := by
  -- a read has no kind; for any other operation `h` names the kind, and both sides compute
  cases op with
  | dRead _ | lRead _ => cases h
  | _ => exact Option.some.inj h ▸ rfl

/-- operations whose kind does not validate before, and is not a reset, pass `preValidate` always:
nothing is rejected before the synchronisation context for them -/
theorem preValidate_none_of_kind (fam : Fam) (b : Bool) (op : Op) (k : OpKind) (h : op.kind? = some k)
    (hv : k.validatesBefore = false) (hr : k ≠ .dReset ∧ k ≠ .lReset) : preValidate fam b op = none := by
  cases op with
  | dRead _ | lRead _ => cases h
  -- the kinds that validate before, and the resets, are excluded by `hv` and `hr`
  | dSetitem _ _ | lSetitem _ _ | lInsert _ _ | lAppend _ | lExtend _ | lIadd _ => cases h; cases hv
  | dReset _ => cases h; exact absurd rfl hr.1
  | lReset _ => cases h; exact absurd rfl hr.2
  -- for the others `preValidate` checks nothing
  | _ => rfl

/-- the side condition on one class of the regenerated table: every mutating operation of the model
that applies to the class has a method of that name, defined in the repository, whose outermost
context is the overwrite context exactly when the model says so, and which validates before the
first `with` exactly when the model says so -/
def OpsMatch (c : ClassInfo) : Bool :=
  OpKind.all.all (fun k =>
    k.onDict != c.isDict ||
    match c.api.find? (fun a => a.name == k.method) with
    | some ⟨_, true, true, some ms⟩ =>
      ((ms.ctxs.head? == some Ctx.overwrite) == k.isOverwrite) && (ms.validateBefore == k.validatesBefore)
    | _ => false)

end SC
