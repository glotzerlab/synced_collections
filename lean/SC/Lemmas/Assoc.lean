/-
Association lists as Python dicts (`Tr.lookup`, `hasKey`, `setKey`, `delKey`): what the tree lemmas
need about them, for any type of values.
-/
import SC.Json
namespace SC
open Tr

variable {α β : Type}

theorem lookup_append (k : Key) (a b : List (Key × α)) :
    Tr.lookup k (a ++ b) = match Tr.lookup k a with | some v => some v | none => Tr.lookup k b := by
  induction a with
  | nil => rfl
  | cons p ps ih =>
    obtain ⟨k', v'⟩ := p
    simp only [List.cons_append, Tr.lookup]
    split
    · rfl
    · exact ih

theorem lookup_setKey_same (k : Key) (v : α) (kvs : List (Key × α)) :
    Tr.lookup k (Tr.setKey k v kvs) = some v := by
  induction kvs with
  | nil => simp [Tr.setKey, Tr.lookup]
  | cons p ps ih =>
    obtain ⟨k', v'⟩ := p
    by_cases h : k' = k <;> simp [Tr.setKey, Tr.lookup, h, ih]

theorem lookup_setKey_other (k k2 : Key) (v : α) (kvs : List (Key × α)) (h : k2 ≠ k) :
    Tr.lookup k2 (Tr.setKey k v kvs) = Tr.lookup k2 kvs := by
  induction kvs with
  | nil => simp [Tr.setKey, Tr.lookup, h.symm]
  | cons p ps ih =>
    obtain ⟨k', v'⟩ := p
    by_cases hk : k' = k
    · simp [Tr.setKey, Tr.lookup, hk, h.symm]
    · simp [Tr.setKey, Tr.lookup, hk, ih]

theorem mem_of_lookup {k : Key} {v : α} {kvs : List (Key × α)} (h : Tr.lookup k kvs = some v) :
    (k, v) ∈ kvs := by
  induction kvs with
  | nil => simp [Tr.lookup] at h
  | cons p ps ih =>
    obtain ⟨k', v'⟩ := p
    simp only [Tr.lookup] at h
    split at h
    · next hk => cases h; subst hk; exact List.mem_cons_self
    · exact List.mem_cons_of_mem _ (ih h)

theorem lookup_map (g : α → β) (k : Key) (kvs : List (Key × α)) :
    Tr.lookup k (kvs.map fun kv => (kv.1, g kv.2)) = (Tr.lookup k kvs).map g := by
  induction kvs with
  | nil => rfl
  | cons p ps ih => by_cases h : p.1 = k <;> simp [Tr.lookup, h, ih]

theorem setKey_map (g : α → β) (k : Key) (v : α) (kvs : List (Key × α)) :
    Tr.setKey k (g v) (kvs.map fun kv => (kv.1, g kv.2)) = (Tr.setKey k v kvs).map fun kv => (kv.1, g kv.2) := by
  induction kvs with
  | nil => rfl
  | cons p ps ih => by_cases h : p.1 = k <;> simp [Tr.setKey, h, ih]

theorem delKey_map (g : α → β) (k : Key) (kvs : List (Key × α)) :
    Tr.delKey k (kvs.map fun kv => (kv.1, g kv.2)) = (Tr.delKey k kvs).map fun kv => (kv.1, g kv.2) := by
  induction kvs with
  | nil => rfl
  | cons p ps ih => by_cases h : p.1 = k <;> simp [Tr.delKey, h, ih]

theorem mem_setKey {k : Key} {v : α} {kvs : List (Key × α)} {p : Key × α} (h : p ∈ Tr.setKey k v kvs) :
    p = (k, v) ∨ p ∈ kvs := by
  induction kvs with
  | nil => simpa [Tr.setKey] using h
  | cons q qs ih =>
    simp only [Tr.setKey] at h
    split at h
    · rcases List.mem_cons.mp h with h | h
      · exact Or.inl h
      · exact Or.inr (List.mem_cons_of_mem _ h)
    · rcases List.mem_cons.mp h with h | h
      · exact Or.inr (h ▸ List.mem_cons_self)
      · exact (ih h).imp_right (List.mem_cons_of_mem _)

theorem lookup_split {k : Key} {v : α} {kvs : List (Key × α)} (h : Tr.lookup k kvs = some v) :
    ∃ l₁ l₂, kvs = l₁ ++ (k, v) :: l₂ ∧ (∀ w, Tr.setKey k w kvs = l₁ ++ (k, w) :: l₂) ∧
      Tr.delKey k kvs = l₁ ++ l₂ := by
  induction kvs with
  | nil => simp [Tr.lookup] at h
  | cons p ps ih =>
    obtain ⟨k', v'⟩ := p
    by_cases hk : k' = k
    · subst hk
      simp only [Tr.lookup, if_true, Option.some.injEq] at h; subst h
      exact ⟨[], ps, rfl, fun w => by simp [Tr.setKey], by simp [Tr.delKey]⟩
    · simp only [Tr.lookup, hk, if_false] at h
      obtain ⟨l₁, l₂, rfl, hs, hd⟩ := ih h
      exact ⟨(k', v') :: l₁, l₂, rfl, fun w => by simp [Tr.setKey, hk, hs], by simp [Tr.delKey, hk, hd]⟩

theorem sublist_delKey (k : Key) (kvs : List (Key × α)) : (Tr.delKey k kvs).Sublist kvs := by
  induction kvs with
  | nil => exact .slnil
  | cons p ps ih =>
    simp only [Tr.delKey]
    split
    · exact List.sublist_cons_self _ _
    · exact ih.cons_cons _

theorem hasKey_iff_lookup (k : Key) (kvs : List (Key × α)) :
    Tr.hasKey k kvs = true ↔ ∃ v, Tr.lookup k kvs = some v := by
  simp [Tr.hasKey, Option.isSome_iff_exists]

theorem lookup_none_of_hasKey_false {α : Type} {k : Key} {kvs : List (Key × α)}
    (h : Tr.hasKey k kvs = false) : Tr.lookup k kvs = none := by
  cases hl : Tr.lookup k kvs with
  | none => rfl
  | some v => simp [Tr.hasKey, hl] at h

theorem hasKey_cons (k k' : Key) (v : α) (kvs : List (Key × α)) :
    Tr.hasKey k ((k', v) :: kvs) = (decide (k' = k) || Tr.hasKey k kvs) := by
  by_cases h : k' = k <;> simp [Tr.hasKey, Tr.lookup, h]

theorem hasKey_of_mem {kv : Key × α} {kvs : List (Key × α)} (h : kv ∈ kvs) : Tr.hasKey kv.1 kvs = true := by
  induction kvs with
  | nil => cases h
  | cons p ps ih =>
    rw [hasKey_cons]
    rcases List.mem_cons.mp h with rfl | h
    · simp
    · simp [ih h]

theorem hasKey_append (k : Key) (a b : List (Key × α)) :
    Tr.hasKey k (a ++ b) = (Tr.hasKey k a || Tr.hasKey k b) := by
  simp only [Tr.hasKey, lookup_append]
  cases Tr.lookup k a <;> simp

theorem hasKey_setKey (k k2 : Key) (v : α) (kvs : List (Key × α)) :
    Tr.hasKey k2 (Tr.setKey k v kvs) = (decide (k2 = k) || Tr.hasKey k2 kvs) := by
  by_cases h : k2 = k
  · subst h; simp [Tr.hasKey, lookup_setKey_same]
  · simp [Tr.hasKey, lookup_setKey_other k k2 v kvs h, h]

theorem hasKey_map (g : α → β) (k : Key) (kvs : List (Key × α)) :
    Tr.hasKey k (kvs.map fun kv => (kv.1, g kv.2)) = Tr.hasKey k kvs := by
  simp [Tr.hasKey, lookup_map]

theorem lookup_filter_hasKey (k : Key) (kvs : List (Key × α)) (d : List (Key × β))
    (h : Tr.hasKey k d = true) :
    Tr.lookup k (kvs.filter (fun kv => Tr.hasKey kv.1 d)) = Tr.lookup k kvs := by
  induction kvs with
  | nil => rfl
  | cons p ps ih =>
    obtain ⟨k', v'⟩ := p
    by_cases hk : k' = k
    · subst hk; simp [h, Tr.lookup]
    · cases hd : Tr.hasKey k' d <;> simp [hd, Tr.lookup, hk, ih]

theorem hasKey_of_sublist (k : Key) {a b : List (Key × α)} (s : a.Sublist b)
    (h : Tr.hasKey k b = false) : Tr.hasKey k a = false := by
  induction s with
  | slnil => exact h
  | cons x _ ih =>
    rw [hasKey_cons, Bool.or_eq_false_iff] at h; exact ih h.2
  | cons_cons x _ ih =>
    rw [hasKey_cons, Bool.or_eq_false_iff] at h ⊢; exact ⟨h.1, ih h.2⟩

end SC
