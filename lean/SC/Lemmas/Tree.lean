/-
`_from_base` and the merge `_update`: a converted value has the content of what it was converted
from, and with it whatever depends on the content only (`Tr.all`, `Tr.wf`, the keys); the outcomes
of one position of the merge loop (`elemStep_cases`, `elemStep_keeps`: what every induction over
the merge uses at a position); the merge never lets forbidden data in (`updNode_ok`) and keeps keys
unique (`updNode_wf`), raising or not.
All by (mutual) structural induction — no bound on depth or width.
-/
import SC.Lemmas.Valid
namespace SC
open Tr

variable {ι : Type}

mutual
theorem toBase_fromBase : ∀ (t : Tr ι) (n : Nat), (fromBase t n).1.toBase = t.toBase
  | .leaf _, _ => rfl
  | .list _ xs, n => congrArg (Tr.list ()) (mapL_fromBaseL xs (n + 1))
  | .dict _ kvs, n => congrArg (Tr.dict ()) (mapKV_fromBaseKV kvs (n + 1))
theorem mapL_fromBaseL : ∀ (xs : List (Tr ι)) (n : Nat),
    Tr.mapL (fun _ => ()) (fromBaseL xs n).1 = Tr.mapL (fun _ => ()) xs
  | [], _ => rfl
  | x :: xs, n => congr (congrArg List.cons (toBase_fromBase x n)) (mapL_fromBaseL xs _)
theorem mapKV_fromBaseKV : ∀ (kvs : List (Key × Tr ι)) (n : Nat),
    Tr.mapKV (fun _ => ()) (fromBaseKV kvs n).1 = Tr.mapKV (fun _ => ()) kvs
  | [], _ => rfl
  | (k, v) :: kvs, n =>
    congr (congrArg (fun a => List.cons (k, a)) (toBase_fromBase v n)) (mapKV_fromBaseKV kvs _)
end

theorem all_fromBase (kr : KeyReq) (lr : LeafReq) :
    ∀ (t : Tr ι) (n : Nat), Tr.all kr lr (fromBase t n).1 = Tr.all kr lr t :=
  fun t n => by rw [← all_toBase, toBase_fromBase, all_toBase]
theorem allL_fromBaseL (kr : KeyReq) (lr : LeafReq) :
    ∀ (xs : List (Tr ι)) (n : Nat), Tr.allL kr lr (fromBaseL xs n).1 = Tr.allL kr lr xs :=
  fun xs n => by rw [← allL_mapL kr lr (fun _ => ()), mapL_fromBaseL, allL_mapL]
theorem allKV_fromBaseKV (kr : KeyReq) (lr : LeafReq) :
    ∀ (kvs : List (Key × Tr ι)) (n : Nat), Tr.allKV kr lr (fromBaseKV kvs n).1 = Tr.allKV kr lr kvs :=
  fun kvs n => by rw [← allKV_mapKV kr lr (fun _ => ()), mapKV_fromBaseKV, allKV_mapKV]

theorem clean_fromBase (nodot : Bool) (t : Tr ι) (n : Nat) :
    clean nodot (fromBase t n).1 = clean nodot t := by
  rw [clean_eq_all, clean_eq_all, all_fromBase]

theorem wf_fromBase (v : Tr ι) (n : Nat) (h : v.wf = true) : (fromBase v n).1.wf = true := by
  rw [← wf_map (fun _ => ()), ← Tr.toBase, toBase_fromBase, Tr.toBase, wf_map]; exact h
theorem wfL_fromBaseL (xs : List (Tr ι)) (n : Nat) (h : Tr.wfL xs = true) : Tr.wfL (fromBaseL xs n).1 = true := by
  rw [← wfL_map (fun _ => ()), mapL_fromBaseL, wfL_map]; exact h
theorem wfKV_fromBaseKV : ∀ (kvs : List (Key × Tr ι)) (n : Nat), Tr.wfKV kvs = true →
    Tr.wfKV (fromBaseKV kvs n).1 = true := by
  intro kvs n h
  rw [← wfKV_map (fun _ => ()), mapKV_fromBaseKV, wfKV_map]; exact h

theorem hasKey_fromBaseKV (kvs : List (Key × Tr ι)) (n : Nat) (k : Key) :
    Tr.hasKey k (fromBaseKV kvs n).1 = Tr.hasKey k kvs := by
  rw [← hasKey_mapKV (fun _ => ()), mapKV_fromBaseKV, hasKey_mapKV]

/-- the `replace` helper inside `elemStep`: a failed validation keeps `cur`, otherwise `new` is
converted and `cur` falls out of the tree -/
def replaceStep (new : Tr ι) (verr : Option Err) (cur : T) (m : Nat) (det : List T) : UpdRes T :=
  match verr with
  | some e => ⟨cur, m, det, some e⟩
  | none => ⟨(fromBase new m).1, (fromBase new m).2, det ++ containers [cur], none⟩

theorem replaceStep_err (new : Tr ι) (verr : Option Err) (cur : T) (m : Nat) (det : List T) :
    (replaceStep new verr cur m det).err = verr := by
  cases verr <;> rfl

/-- The four outcomes of `elemStep`: equal leaves, nothing happens; the position is replaced (memory
holds a leaf, or the data is null); the nested merge stands (it raised nothing, or something other
than a `ValueError`); the nested merge raised a `ValueError` and what it left behind is replaced. -/
theorem elemStep_cases (existing : T) (new : Tr ι) (nested : UpdRes T) (verr : Option Err) (n : Nat) :
    (∃ s, existing = .leaf s ∧ new = .leaf s ∧ elemStep existing new nested verr n = ⟨existing, n, [], none⟩) ∨
    ((existing.isLeaf = true ∨ new = .leaf .null) ∧
      elemStep existing new nested verr n = replaceStep new verr existing n []) ∨
    (existing.isLeaf = false ∧ new ≠ .leaf .null ∧
      ((elemStep existing new nested verr n = nested ∧ ∀ e, nested.err = some e → e.isValueError = false) ∨
       ((∃ e, nested.err = some e ∧ e.isValueError = true) ∧
        elemStep existing new nested verr n = replaceStep new verr nested.val nested.next nested.det))) := by
  cases existing with
  | leaf s =>
    cases new with
    | leaf s' =>
      by_cases h : s = s'
      · exact Or.inl ⟨s, rfl, h ▸ rfl, if_pos h⟩
      · exact Or.inr (Or.inl ⟨Or.inl rfl, if_neg h⟩)
    | list _ _ => exact Or.inr (Or.inl ⟨Or.inl rfl, rfl⟩)
    | dict _ _ => exact Or.inr (Or.inl ⟨Or.inl rfl, rfl⟩)
  | list i xs | dict i kvs =>
    by_cases hn : new = .leaf .null
    · subst hn; exact Or.inr (Or.inl ⟨Or.inr rfl, rfl⟩)
    · refine Or.inr (Or.inr ⟨rfl, hn, ?_⟩)
      -- the match on `new` reduces by `hn`
      simp only [elemStep]
      cases he : nested.err with
      | none => exact Or.inl ⟨rfl, nofun⟩
      | some e =>
        by_cases hv : e.isValueError = true
        · exact Or.inr ⟨⟨e, rfl, hv⟩, if_pos hv⟩
        · exact Or.inl ⟨if_neg hv, fun _ h => Option.some.inj h ▸ eq_false_of_ne_true hv⟩

theorem elemStep_keeps {P : UpdRes T → Prop} {existing : T} {new : Tr ι} {nested : UpdRes T}
    {verr : Option Err} {n : Nat} (h0 : P ⟨existing, n, [], none⟩) (hn : P nested)
    (hrep : ∀ r : UpdRes T, P r → P (replaceStep new verr r.val r.next r.det)) :
    P (elemStep existing new nested verr n) := by
  rcases elemStep_cases existing new nested verr n with ⟨_, _, _, h⟩ | ⟨_, h⟩ | ⟨_, _, ⟨h, _⟩ | ⟨_, h⟩⟩ <;> rw [h]
  · exact h0
  · exact hrep _ h0
  · exact hn
  · exact hrep _ hn

/-- merging a leaf: null is "no action", any other leaf "Unsupported type"; memory stays as it is -/
theorem updNode_leaf (fam : Fam) (t : T) (s : Scalar) (n : Nat) :
    updNode fam t (.leaf s : Tr ι) n = ⟨t, n, [], if s = .null then none else some .valueError⟩ := by
  cases s <;> rfl

section merge
variable (kr : KeyReq) (lr : LeafReq) (fam : Fam)

/-- a result of the merge within the requirement: its value (`okv` is `Tr.all`, `allL` or `allKV`, as the
loop has it) and every node that fell out of the tree -/
def UpdRes.AllOk {α : Type} (okv : α → Bool) (r : UpdRes α) : Prop :=
  okv r.val = true ∧ Tr.allL kr lr r.det = true

theorem containers_ok {ts : List T} (h : Tr.allL kr lr ts = true) :
    Tr.allL kr lr (containers ts) = true := allL_filter kr lr _ h

theorem elemStep_ok {existing : T} {new : Tr ι} {nested : UpdRes T} {verr : Option Err} {n : Nat}
    (he : Tr.all kr lr existing = true)
    (hn : UpdRes.AllOk kr lr (Tr.all kr lr) nested)
    (hv : verr = none → Tr.all kr lr new = true) :
    UpdRes.AllOk kr lr (Tr.all kr lr) (elemStep existing new nested verr n) := by
  refine elemStep_keeps ⟨he, rfl⟩ hn fun r hr => ?_
  cases verr with
  | some e => exact hr
  | none =>
    refine ⟨(all_fromBase kr lr new _).trans (hv rfl), ?_⟩
    rw [replaceStep, allL_append, hr.2]
    exact containers_ok kr lr ((Bool.and_true _).trans hr.1)

variable (hd : keyReq fam.dictV = kr ∧ leafReq fam.dictV = lr)
variable (hl : keyReq fam.listV = kr ∧ leafReq fam.listV = lr)

-- the linter calls `hd`, `hl` unused in each: wrongly, each needs them for its calls to the other two
include hd hl in
mutual
theorem updNode_ok : ∀ (d : Tr ι) (t : T) (n : Nat), Tr.all kr lr t = true →
    UpdRes.AllOk kr lr (Tr.all kr lr) (updNode fam t d n)
  | .leaf s => fun t n ht => by rw [updNode_leaf]; exact ⟨ht, rfl⟩
  | .list j dxs => fun t n ht => by
    cases t with
    | list i xs => exact updListLoop_ok dxs xs n ht
    | _ => exact ⟨ht, rfl⟩
  | .dict j dkvs => fun t n ht => by
    cases t with
    | dict i kvs =>
      have h := updDictLoop_ok dkvs kvs n ht
      simp only [updNode]
      split
      · exact h
      · refine ⟨allKV_filter kr lr _ h.1, ?_⟩
        rw [allL_append, h.2]
        exact containers_ok kr lr (allL_of_allKV_values kr lr (allKV_filter kr lr _ h.1))
    | _ => exact ⟨ht, rfl⟩
theorem updDictLoop_ok : ∀ (data : List (Key × Tr ι)) (cur : List (Key × T)) (n : Nat),
    Tr.allKV kr lr cur = true →
    UpdRes.AllOk kr lr (Tr.allKV kr lr) (updDictLoop fam cur data n)
  | [] => fun _ _ hc => ⟨hc, rfl⟩
  | (k, v) :: rest => fun cur n hc => by
    have hval : validateKV fam.dictV [(k, v)] = none → kr.ok k = true ∧ Tr.all kr lr v = true :=
      fun h => hd.1 ▸ hd.2 ▸ (validateKV_single _ k v).mp h
    simp only [updDictLoop]
    split
    · split
      · exact ⟨hc, rfl⟩
      · next hv =>
        refine updDictLoop_ok rest _ (fromBase v n).2 ?_
        rw [allKV_append, hc]; simp [Tr.allKV, hval hv, all_fromBase]
    · next existing hlook =>
      have hex := allKV_lookup kr lr hc hlook
      have hs := elemStep_ok kr lr (n := n) (verr := validateKV fam.dictV [(k, v)]) hex.2
        (updNode_ok v existing n hex.2) (fun h => (hval h).2)
      have hc' := allKV_setKey kr lr hc hex.1 hs.1
      split
      · exact ⟨hc', hs.2⟩
      · have h := updDictLoop_ok rest _ (elemStep existing v (updNode fam existing v n)
            (validateKV fam.dictV [(k, v)]) n).next hc'
        exact ⟨h.1, by rw [allL_append, hs.2, h.2]; rfl⟩
theorem updListLoop_ok : ∀ (data : List (Tr ι)) (cur : List T) (n : Nat),
    Tr.allL kr lr cur = true →
    UpdRes.AllOk kr lr (Tr.allL kr lr) (updListLoop fam cur data n)
  | [], [] => fun _ _ => ⟨rfl, rfl⟩
  | [], c :: cs => fun _ hc => ⟨rfl, containers_ok kr lr hc⟩
  | d :: ds, [] => fun n _ => by
    simp only [updListLoop]
    split
    · exact ⟨rfl, rfl⟩
    · next hv =>
      rw [validateL_none, hl.1, hl.2] at hv
      exact ⟨by rw [allL_fromBaseL]; exact hv, rfl⟩
  | d :: ds, c :: cs => fun n hc => by
    simp only [Tr.allL, Bool.and_eq_true] at hc
    have hs := elemStep_ok kr lr (n := n) (verr := validate fam.listV d) hc.1
      (updNode_ok d c n hc.1)
      (fun h => by rw [validate_none, hl.1, hl.2] at h; exact h)
    simp only [updListLoop]
    split
    · exact ⟨Bool.and_eq_true_iff.mpr ⟨hs.1, hc.2⟩, hs.2⟩
    · have h := updListLoop_ok ds cs (elemStep c d (updNode fam c d n) (validate fam.listV d) n).next hc.2
      exact ⟨Bool.and_eq_true_iff.mpr ⟨hs.1, h.1⟩, by rw [allL_append, hs.2, h.2]; rfl⟩
end

end merge

theorem elemStep_wf {existing : T} {new : Tr ι} {nested : UpdRes T} {verr : Option Err} {n : Nat}
    (he : existing.wf = true) (hnew : new.wf = true) (hn : nested.val.wf = true) :
    (elemStep existing new nested verr n).val.wf = true := by
  refine elemStep_keeps (P := fun r => r.val.wf = true) he hn fun r hr => ?_
  cases verr with
  | some e => exact hr
  | none => exact wf_fromBase new _ hnew

mutual
theorem updNode_wf (fam : Fam) : ∀ (d : Tr ι) (t : T) (n : Nat), t.wf = true → d.wf = true →
    (updNode fam t d n).val.wf = true
  | .leaf s => fun t n ht _ => by rw [updNode_leaf]; exact ht
  | .list j dxs => fun t n ht hd => by
    cases t with
    | list i xs => exact updListLoop_wf fam dxs xs n ht hd
    | _ => exact ht
  | .dict j dkvs => fun t n ht hd => by
    cases t with
    | dict i kvs =>
      have h := updDictLoop_wf fam dkvs kvs n ht hd
      simp only [updNode]
      split
      · exact h
      · exact wfKV_filter _ _ h
    | _ => exact ht
theorem updDictLoop_wf (fam : Fam) : ∀ (data : List (Key × Tr ι)) (cur : List (Key × T)) (n : Nat),
    Tr.wfKV cur = true → Tr.wfKV data = true → Tr.wfKV (updDictLoop fam cur data n).val = true
  | [] => fun _ _ hc _ => hc
  | (k, v) :: rest => fun cur n hc hd => by
    obtain ⟨_, hv, hrest⟩ := wfKV_cons.mp hd
    simp only [updDictLoop]
    split
    · next hlook =>
      split
      · exact hc
      · exact updDictLoop_wf fam rest _ _
          (wfKV_append cur k _ hc (by simp [Tr.hasKey, hlook]) (wf_fromBase v n hv)) hrest
    · next existing hlook =>
      have hex := wf_of_lookup hc hlook
      have hc' := wfKV_setKey cur k _ hc (elemStep_wf (verr := validateKV fam.dictV [(k, v)]) (n := n)
        hex hv (updNode_wf fam v existing n hex hv))
      split
      · exact hc'
      · exact updDictLoop_wf fam rest _ _ hc' hrest
theorem updListLoop_wf (fam : Fam) : ∀ (data : List (Tr ι)) (cur : List T) (n : Nat),
    Tr.wfL cur = true → Tr.wfL data = true → Tr.wfL (updListLoop fam cur data n).val = true
  | [], [] => fun _ _ _ => rfl
  | [], c :: cs => fun _ _ _ => rfl
  | d :: ds, [] => fun n _ hd => by
    simp only [updListLoop]
    split
    · rfl
    · exact wfL_fromBaseL (d :: ds) n hd
  | d :: ds, c :: cs => fun n hc hd => by
    simp only [Tr.wfL, Bool.and_eq_true] at hc hd
    have hs := elemStep_wf (verr := validate fam.listV d) (n := n) hc.1 hd.1 (updNode_wf fam d c n hc.1 hd.1)
    simp only [updListLoop]
    split
    · exact Bool.and_eq_true_iff.mpr ⟨hs, hc.2⟩
    · exact Bool.and_eq_true_iff.mpr ⟨hs, updListLoop_wf fam ds cs _ hc.2 hd.2⟩
end

end SC
