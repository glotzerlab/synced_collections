/-
C15 — boundedness and zero-outside, part 2.  `Good` (exact size, every buffered file held, size within
the capacity) holds along every step: a forced flush leaves size 0 (`forced_flush_zero`), so the
capacity check restores the bound (`good_overflow`); the buffer inserts of load and save add entries
only for the file of a buffered, registered object (`Grow`, `Ensured`).  With `Good`, nothing is
buffered when no buffered context is active (`zero_outside`).
-/
import SC.Lemmas.BufSize
import SC.Lemmas.BufCap
import SC.Lemmas.BufHeld
namespace SC.B
open SC

/-- C15: after a forced flush of the buffer the size is 0 — every buffered file has a registered
object, a forced flush flushes every registered object, and that removes the file from the buffer
(serialized) or leaves its buffered copy unmodified (shared memory) -/
theorem forced_flush_zero (s : State) (hst : s.strategy ≠ .none) (hw : WHeld s)
    (hso : SizeOK (flushBuffer s true).1) :
    (flushBuffer s true).1.size = 0 := by
  have hk := keeps_flushBuffer s true
  rw [hso.2, hk.strategy, hk.flen]
  apply measure_zero
  rw [flushBuffer_fst]
  obtain ⟨f, _, facts, _⟩ := flushBufferLoop_facts true (s.strategy == .sharedMemory) s.registry.reverse
    { s with registry := [] } [] [] hst
  intro p hp
  obtain ⟨e0, he0⟩ := f.sub p hp
  obtain ⟨h, hreg, o, ho, hr⟩ := hw (p.1, e0) he0
  have := facts h (List.mem_reverse.mpr hreg) o ho (by simp [due])
  rcases strategy_cases hst with h1 | h1
  · exact absurd hr ((this.1 (Or.inl h1)) p hp).symm
  · rw [h1, weight, this.2 h1 rfl p hp hr.symm]
    rfl

/-- `Good` without the bound: what the capacity check needs -/
structure Pre (s : State) : Prop where
  strat : s.strategy ≠ .none
  sizeOK : SizeOK s
  held : Held s

/-- a buffered class's state is *good*: the size is the exact sum of the weights of the buffered
files, every buffered file has a registered object that is currently buffered, and the size is
within the capacity -/
def Good (s : State) : Prop :=
  s.strategy ≠ .none ∧ SizeOK s ∧ Held s ∧ s.size ≤ s.capacity

theorem Good.sizeOK {s : State} (h : Good s) : SizeOK s := h.2.1
theorem Good.held {s : State} (h : Good s) : Held s := h.2.2.1
theorem Good.bound {s : State} (h : Good s) : s.size ≤ s.capacity := h.2.2.2
theorem Good.pre {s : State} (h : Good s) : Pre s := ⟨h.1, h.2.1, h.2.2.1⟩
theorem Pre.good {s : State} (h : Pre s) (hb : s.size ≤ s.capacity) : Good s :=
  ⟨h.strat, h.sizeOK, h.held, hb⟩

theorem Pre.of_keeps {s s' : State} (h : Pre s) (k : Keeps s s') (hh : Held s') : Pre s' :=
  ⟨k.strategy ▸ h.strat, k.sizeOK h.sizeOK, hh⟩

theorem Pre.of_frame {s s' : State} (h : Pre s) (hf : Frame s s') (hb : SameBook s s') : Pre s' :=
  h.of_keeps (.of_sameBook hb) (.of_mono hf.sub (.of_frame hf) h.held)

theorem Good.of_frame {s s' : State} (h : Good s) (hf : Frame s s') (hb : SameBook s s')
    (hc : s'.capacity = s.capacity) : Good s' :=
  (h.pre.of_frame hf hb).good (by rw [hb.size, hc]; exact h.bound)

theorem Good.quiet {s s' : State} (h : Good s) (hq : Quiet s s') : Good s' :=
  h.of_frame hq.frame hq.book hq.cap.1

/-- C15: after the capacity check the size is within the capacity: either it was, or the forced
flush has left size 0 -/
theorem good_overflow {s : State} (h : Pre s) : Good (overflow s).1 := by
  have k := keeps_carried.overflow s
  unfold overflow at k ⊢
  split
  · rw [if_pos ‹_›] at k
    exact (h.of_keeps k (flushBuffer_held s true h.strat h.held.weak fun _ _ => h.held)).good
      (by rw [forced_flush_zero s h.strat h.held.weak (k.sizeOK h.sizeOK)]; exact Nat.zero_le _)
  · exact h.good (Nat.le_of_not_gt ‹_›)

/-- C15: `set_buffer_capacity(n)` leaves the size within the new capacity, whatever it was -/
theorem good_setCapacity (s : State) (n : Nat) (h : Pre s) : Good (setCapacity s n).1 :=
  good_overflow (s := { s with capacity := n })
    (h.of_frame (.of_eq rfl rfl rfl rfl rfl) (.of_settings s (capacity := n)))

/-! ### entries are only added for the file of a buffered, registered object -/

/-- `Frame`, except that objects may get registered and entries for file `r` added -/
structure Grow (r : Nat) (s s' : State) : Prop where
  ctx : s'.ctx = s.ctx
  objs : s'.objs.map (fun o => (o.res, o.buffered)) = s.objs.map (fun o => (o.res, o.buffered))
  reg : ∀ x ∈ s.registry, x ∈ s'.registry
  ent : ∀ p ∈ s'.entries, (∃ e0, (p.1, e0) ∈ s.entries) ∨ p.1 = r
  strat : s'.strategy = s.strategy

theorem Grow.refl (r : Nat) (s : State) : Grow r s s :=
  ⟨rfl, rfl, fun _ h => h, fun p hp => Or.inl ⟨p.2, hp⟩, rfl⟩

theorem Grow.trans {r : Nat} {a b c : State} (h1 : Grow r a b) (h2 : Grow r b c) : Grow r a c :=
  ⟨h2.ctx.trans h1.ctx, h2.objs.trans h1.objs, fun x hx => h2.reg x (h1.reg x hx),
   fun p hp => by
    rcases h2.ent p hp with ⟨e0, he0⟩ | h
    · exact h1.ent (p.1, e0) he0
    · exact Or.inr h,
   h2.strat.trans h1.strat⟩

theorem Grow.of_frame {r : Nat} {s s' : State} (hf : Frame s s') : Grow r s s' :=
  ⟨hf.ctx, hf.objs, fun _ hx => hf.reg ▸ hx, fun p hp => Or.inl (hf.sub p hp), hf.strat⟩

theorem Held.of_grow {r : Nat} {s s' : State} (hg : Grow r s s') {oi : Nat} {o : Obj}
    (hoi : oi ∈ s'.registry) (ho : s.objs[oi]? = some o) (hr : o.res = r) (hb : s.isBuffered o = true)
    (h : Held s) : Held s' := by
  intro p hp
  rcases hg.ent p hp with ⟨e0, he0⟩ | hpr
  · exact holder_mono (.of_objs hg.ctx hg.objs hg.reg) (h (p.1, e0) he0)
  · obtain ⟨o', ho', hr', _, hib⟩ := obj_transfer hg.ctx hg.objs ho
    exact ⟨oi, hoi, o', ho', by rw [hpr, hr', hr], hib ▸ hb⟩

theorem mem_register (s : State) (oi : Nat) : oi ∈ (s.register oi).registry := by
  rw [State.register_eq]
  show oi ∈ if _ then _ else _
  split
  · rename_i h; simpa using h
  · simp

theorem grow_register (r : Nat) (s : State) (oi : Nat) : Grow r s (s.register oi) := by
  rw [State.register_eq]
  refine ⟨rfl, rfl, fun x hx => ?_, fun p hp => Or.inl ⟨p.2, hp⟩, rfl⟩
  show x ∈ if _ then _ else _
  split
  · exact hx
  · exact List.mem_append_left _ hx

theorem grow_setBuf (s : State) (r : Nat) (new : Option Entry) (n : Nat) : Grow r s (setBuf s r new n) :=
  ⟨rfl, rfl, fun _ hx => hx, fun p hp => by
    rcases mem_setBuf.mp hp with ⟨hr, _⟩ | h
    · exact Or.inr hr
    · exact Or.inl ⟨p.2, h.1⟩, rfl⟩

/-- C15: `_save` keeps the state good: the buffer insert is for the file of the saving object,
which is buffered and registered; then the capacity check -/
theorem good_save {s : State} (oi : Nat) (h : Good s) : Good (save s oi).1 := by
  rcases save_cases s oi with heq | ⟨o, _, _, heq⟩ | ⟨o, ho, hb, ⟨hs, _⟩ | ⟨e', n, heq, hn⟩⟩
  · rw [heq]; exact h
  · rw [heq]; exact h.quiet (quiet_trySave s o)
  · exact absurd hs h.1
  · rw [heq]
    have hg := (grow_register o.res s oi).trans (grow_setBuf (s.register oi) o.res (some e') n)
    exact good_overflow (h.pre.of_keeps (keeps_setBuf (sameBook_register s oi) fun hok => hn (size_ge_weight hok _))
      (.of_grow hg (mem_register s oi) ho rfl hb h.held))

/-- what `_load_from_buffer` guarantees for a buffered object `o`, of its result `R`: if it raised,
the state is still good; if not, the file is in the buffer, every buffered file is held, and only
a serialized entry has changed the size -/
def Ensured (s : State) (o : Obj) (R : State × Option Err) : Prop :=
  (R.2 ≠ none → Good R.1) ∧
  (R.2 = none → Pre R.1 ∧ Grow o.res s R.1 ∧ R.1.capacity = s.capacity ∧
    (s.strategy ≠ .serialized → R.1.size = s.size) ∧ (R.1.entry o.res).isSome = true)

theorem ensured_ensureEntry {s : State} {oi : Nat} {o : Obj} (h : Good s) (ho : s.objs[oi]? = some o)
    (hb : s.isBuffered o = true) : Ensured s o (ensureEntry s oi o) := by
  have k := keeps_ensureEntry s oi o
  -- every way out without an error registers `oi`, on a state that grew by the file of `o` at most
  have hfin : ∀ X, ensureEntry s oi o = (X.register oi, none) → Grow o.res s X → X.capacity = s.capacity →
      (s.strategy ≠ .serialized → X.size = s.size) → (X.entry o.res).isSome = true →
      Ensured s o (ensureEntry s oi o) := by
    intro X heq hg hc hsz hent
    rw [heq] at k ⊢
    have hg' := hg.trans (grow_register o.res X oi)
    refine ⟨nofun, fun _ => ⟨h.pre.of_keeps k (.of_grow hg' (mem_register X oi) ho rfl hb h.held), hg', ?_⟩⟩
    rw [State.register_eq]
    exact ⟨hc, hsz, hent⟩
  rcases ensureEntry_cases s oi o with ⟨he, heq⟩ | ⟨_, herr, heq⟩ | ⟨_, _, e, hc, heq⟩
  · exact hfin s heq (.refl _ s) rfl (fun _ => rfl) he
  · rw [heq]
    exact ⟨fun _ => h.quiet (quiet_reload ..), fun h => absurd h herr⟩
  · have hq := quiet_reload s oi o
    generalize (reload s oi o).1 = X at hc heq hq
    exact hfin _ heq ((Grow.of_frame hq.frame).trans (grow_setBuf ..)) hq.cap.1
      (fun hs => by rw [← hq.book.size]; exact congrArg (X.size + ·) (weight_clean _ (hq.book.strategy ▸ hs) hc))
      (congrArg Option.isSome (entry_setBuf ..))

theorem good_load {s : State} (oi : Nat) (h : Good s) : Good (load s oi).1 := by
  rw [load_eq]
  split
  · exact h
  · rename_i o ho
    split
    · rename_i hb
      have ee := ensured_ensureEntry (oi := oi) h ho hb
      split
      · -- serialized: the capacity check, then the merge of the buffered contents
        refine andThen_fst Good ee.1 fun hn => ?_
        obtain ⟨hp, _, _, _, hent⟩ := ee.2 hn
        split
        · rename_i hnone; rw [hnone] at hent; cases hent
        · exact andThen_fst Good (fun _ => good_overflow hp) fun _ =>
            (good_overflow hp).quiet (quiet_mergeInto ..)
      · -- shared memory: the object takes the buffered container; the size has not changed
        rename_i hs
        refine andThen_fst Good ee.1 fun hn => ?_
        obtain ⟨hp, hg, hc, hsz, _⟩ := ee.2 hn
        have hgood : Good (ensureEntry s oi o).1 := hp.good (by rw [hsz (by simp [hs]), hc]; exact h.bound)
        split
        · exact hgood
        · obtain ⟨o1, ho1, hr1, hb1, _⟩ := obj_transfer hg.ctx hg.objs ho
          exact hgood.quiet (quiet_setObj ho1 hr1.symm hb1.symm)
      · exact h
    · exact h.quiet (quiet_reload ..)

theorem good_call {s : State} (h : Handle) (op : Op) (hg : Good s) : Good (call s h op).1 :=
  (Composes.of_pred Good).call (fun _ oi => good_load oi)
    (fun _ _ _ _ hg => hg.quiet (.of_core (memUpdate_core ..) (memUpdate_objs ..))) s h op
    (fun _ _ oi => good_save oi) hg

theorem mono_setObj {s : State} {oi : Nat} {o o' : Obj} (ho : s.objs[oi]? = some o) (hr : o'.res = o.res)
    (hb : s.isBuffered o = true → s.isBuffered o' = true) : Mono s (s.setObj oi o') := by
  refine ⟨fun _ h => h, fun i x hx => ?_⟩
  by_cases hi : i = oi
  · subst hi
    cases ho.symm.trans hx
    exact ⟨o', List.getElem?_set_self (List.getElem?_eq_some_iff.mp ho).1, hr, hb⟩
  · exact ⟨x, (List.getElem?_set_ne (Ne.symm hi)).trans hx, rfl, id⟩

theorem good_enterObj (s : State) (oi : Nat) (h : Good s) : Good (enterObj s oi) := by
  unfold enterObj
  split
  · exact h
  · rename_i o ho
    exact ⟨h.1, (SameBook.of_core (State.setObj_core ..)).sizeOK h.sizeOK,
      .of_mono (s := s) (fun p hp => ⟨p.2, hp⟩) (mono_setObj ho rfl (fun _ => by simp [State.isBuffered])) h.held,
      h.bound⟩

theorem holder_setObj_other {s : State} {oi : Nat} {o : Obj} (o' : Obj) (ho : s.objs[oi]? = some o) {r : Nat}
    (hr : r ≠ o.res) (h : Holder s r) : Holder (s.setObj oi o') r := by
  obtain ⟨hh, hreg, oh, hoh, hres, hb⟩ := h
  have hne : oi ≠ hh := fun e => hr (by subst e; cases ho.symm.trans hoh; exact hres.symm)
  exact ⟨hh, hreg, oh, (List.getElem?_set_ne hne).trans hoh, hres, hb⟩

/-- object `oi` is changed (leaving `obj.buffered`) and a flush follows: the object either stays
buffered, and then every holder survives, or its file has left the buffer, and the other files are
held by other objects -/
theorem held_after_dec {s : State} {oi : Nat} {o o' : Obj} (h : Held s) (ho : s.objs[oi]? = some o)
    (hr : o'.res = o.res) (R : State) (hf : Frame (s.setObj oi o') R)
    (habs : (s.setObj oi o').isBuffered o' = false → Absent o.res R) : Held R := by
  intro p hp
  obtain ⟨e0, he0⟩ := hf.sub p hp
  refine holder_mono (.of_frame hf) ?_
  cases hib : (s.setObj oi o').isBuffered o'
  · exact holder_setObj_other _ ho (habs hib p hp) (h (p.1, e0) he0)
  · exact holder_mono (mono_setObj ho hr fun _ => hib) (h (p.1, e0) he0)

theorem good_exitObj (s : State) (oi : Nat) (h : Good s) : Good (exitObj s oi).1 := by
  have k := keeps_exitObj s oi
  refine ⟨k.strategy ▸ h.1, k.sizeOK h.sizeOK, ?_⟩
  unfold exitObj
  split
  · exact ⟨h.held, h.bound⟩
  · rename_i o ho
    have ho1 : (s.setObj oi { o with buffered := o.buffered - 1 }).objs[oi]? = some { o with buffered := o.buffered - 1 } :=
      List.getElem?_set_self (List.getElem?_eq_some_iff.mp ho).1
    split
    · have facts := flushOne_facts _ oi false _ ho1 h.1
      exact ⟨held_after_dec (o' := { o with buffered := o.buffered - 1 }) h.held ho rfl _ facts.1
          fun hib => facts.2.2.1 (by simp [due, hib]) (Or.inr rfl),
        (shrinks_flushOne _ oi false).bound h.bound⟩
    · rename_i hne
      refine ⟨held_after_dec (o' := { o with buffered := o.buffered - 1 }) h.held ho rfl _ (.refl _)
        fun hib => ?_, h.bound⟩
      simp only [State.isBuffered, Bool.or_eq_false_iff, decide_eq_false_iff_not, Nat.not_lt, Nat.le_zero_eq] at hib
      exact absurd hib.1 hne

/-- a state with a positive context counter: every object is buffered -/
theorem held_ctx_pos {s X : State} (h : Held s) (h1 : X.entries = s.entries) (h2 : X.objs = s.objs)
    (h3 : X.registry = s.registry) (hpos : X.ctx > 0) : Held X := by
  intro p hp
  obtain ⟨hh, hreg, oh, hoh, hres, _⟩ := h p (h1 ▸ hp)
  exact ⟨hh, h3 ▸ hreg, oh, h2 ▸ hoh, hres, by simp [State.isBuffered, hpos]⟩

theorem good_enterCls (s : State) (cap : Option Nat) (h : Good s) : Good (enterCls s cap).1 := by
  unfold enterCls
  have h1 : ∀ st, Pre { s with ctx := s.ctx + 1, capStack := st } := fun st =>
    ⟨h.1, (SameBook.of_settings s (ctx := s.ctx + 1) (capStack := st)).sizeOK h.sizeOK,
      held_ctx_pos h.held rfl rfl rfl (Nat.succ_pos _)⟩
  cases cap with
  | none => exact (h1 _).good h.bound
  | some c => exact good_setCapacity _ c (h1 _)

theorem good_popCap {s : State} (h : Good s) : Good (popCap s).1 := by
  have h1 : ∀ st, Good { s with capStack := st } := fun st =>
    h.of_frame (.of_eq rfl rfl rfl rfl rfl) (.of_settings s (capStack := st)) rfl
  unfold popCap
  split
  · exact h
  · exact h1 _
  · exact good_setCapacity _ _ (h1 _).pre

theorem good_exitCls (s : State) (h : Good s) : Good (exitCls s).1 := by
  rw [exitCls_fst]
  refine good_popCap ?_
  have hso : SizeOK { s with ctx := s.ctx - 1 } := (SameBook.of_settings s (ctx := s.ctx - 1)).sizeOK h.sizeOK
  split
  · -- the last context is left: whoever is still buffered keeps its file, the others are flushed
    have k := keeps_flushBuffer { s with ctx := s.ctx - 1 } false
    exact ⟨by rw [k.strategy]; exact h.1, k.sizeOK hso,
      flushBuffer_held _ false h.1 h.held.weak nofun,
      (shrinks_flushBuffer _ false).bound h.bound⟩
  · exact ⟨h.1, hso, held_ctx_pos h.held rfl rfl rfl (Nat.pos_of_ne_zero ‹_›), h.bound⟩

/-- a new object is not registered and no file is added to the buffer -/
theorem good_newObj {s : State} (h : Good s) (d : Bool) (r : Nat) (root : T) (n : Nat) :
    Good (newObj s d r root n) := by
  have hc := newObj_core s d r root n
  have hbook := SameBook.of_core hc
  have hcap := SameCap.of_core hc
  have hregistry : (newObj s d r root n).registry = s.registry := congrArg Core.registry hc
  refine ⟨hbook.strategy ▸ h.1, hbook.sizeOK h.sizeOK, fun p hp => ?_,
    by rw [hbook.size, hcap.1]; exact h.bound⟩
  obtain ⟨hh, hreg, oh, hoh, hres, hb⟩ := h.held p (hbook.entries ▸ hp)
  refine ⟨hh, hregistry ▸ hreg, oh, ?_, hres, ?_⟩
  · simp only [newObj, State.own_objs, State.setCell]
    rw [List.getElem?_append_left (List.getElem?_eq_some_iff.mp hoh).1]; exact hoh
  · simpa [State.isBuffered, hcap.2.2] using hb

theorem good_openObj (s : State) (d : Bool) (r : Nat) (data : Option J) (h : Good s) :
    Good (openObj s d r data).1 := by
  rcases openObj_fst s d r data with heq | ⟨root, n, heq⟩ <;> rw [heq]
  · exact h
  · exact good_newObj h d r root n

theorem good_step (s : State) (st : Step) (h : Good s) : Good (step s st) := by
  cases st with
  | call hd op => exact good_call hd op h
  | enterObj oi => exact good_enterObj s oi h
  | exitObj oi => exact good_exitObj s oi h
  | enterCls cap => exact good_enterCls s cap h
  | exitCls => exact good_exitCls s h
  | setCap n => exact good_setCapacity s n h.pre
  | openObj d r data => exact good_openObj s d r data h
  | ext r d => exact h.quiet (.of_disk ..)
  | extDel r => exact h.quiet (.of_disk ..)
  | setFailing rs => exact h.quiet (.of_disk ..)

theorem good_run (s : State) (steps : List Step) (h : Good s) : Good (run s steps) :=
  (Composes.of_pred Good).run steps s (fun st _ s => good_step s st) h

theorem good_init (fam : Fam) (strategy : Buffering) (fl : List ((Int × Nat) × Nat)) (hst : strategy ≠ .none) :
    Good (State.init fam strategy fl) :=
  ⟨hst, sizeOK_init fam strategy fl, fun p hp => by simp [State.init] at hp, by simp [State.init]⟩

/-- C15: when no buffered context is active the buffer is empty and the size is 0 -/
theorem zero_outside (s : State) (h : Good s) (hctx : s.ctx = 0) (hobj : ∀ o ∈ s.objs, o.buffered = 0) :
    s.entries = [] ∧ s.size = 0 := by
  have he : s.entries = [] := by
    cases hent : s.entries with
    | nil => rfl
    | cons p ps =>
      obtain ⟨hh, _, oh, hoh, _, hb⟩ := h.held p (by rw [hent]; exact List.mem_cons_self ..)
      simp [State.isBuffered, hctx, hobj oh (List.mem_of_getElem? hoh)] at hb
  exact ⟨he, by rw [h.sizeOK.2, he]; rfl⟩

end SC.B
