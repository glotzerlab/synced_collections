/-
Naturality: every built-in dict / list operation commutes with relabelling the
identities of the elements (`Tr.map f`), in particular with `toBase`.  Hence the
plain content of a synced container after an operation is the built-in operation
applied to its plain content — for every operation, argument and size.
-/
import SC.Builtin
import SC.Lemmas.TrList
namespace SC
open Tr

variable {ι κ : Type} (f : ι → κ)

/-- `pyEqIn` walks the right-hand bindings, the other three the left-hand tree.  Proved apart, by
induction on those bindings, it leaves a block that is structurally recursive in the tree (all four
together are accepted only by well-founded recursion, which is slow to check). -/
theorem pyEqIn_map_left_of {k : Key} {v : Tr ι} (h : ∀ w : J, Tr.pyEq (v.map f) w = Tr.pyEq v w) :
    ∀ kws : List (Key × J), Tr.pyEqIn k (v.map f) kws = Tr.pyEqIn k v kws
  | [] => by unfold Tr.pyEqIn; rfl
  | (k', w) :: kws => by
    unfold Tr.pyEqIn
    rw [h w, pyEqIn_map_left_of h kws]

mutual
theorem pyEq_map_left : ∀ (x : Tr ι) (v : J), Tr.pyEq (x.map f) v = Tr.pyEq x v
  | .leaf a, v => by unfold Tr.pyEq; cases v <;> rfl
  | .list i xs, v => by
    unfold Tr.pyEq
    cases v with
    | list j ys => exact pyEqL_map_left xs ys
    | _ => rfl
  | .dict i kvs, v => by
    unfold Tr.pyEq
    cases v with
    | dict j kws => dsimp only [Tr.map]; rw [length_mapKV, pyEqKV_map_left kvs kws]
    | _ => rfl
theorem pyEqL_map_left : ∀ (xs : List (Tr ι)) (ys : List J),
    Tr.pyEqL (Tr.mapL f xs) ys = Tr.pyEqL xs ys
  | [], ys => by unfold Tr.pyEqL; cases ys <;> rfl
  | x :: xs, ys => by
    unfold Tr.pyEqL
    cases ys with
    | nil => rfl
    | cons y ys => dsimp only [Tr.mapL]; rw [pyEq_map_left x y, pyEqL_map_left xs ys]
theorem pyEqKV_map_left : ∀ (kvs : List (Key × Tr ι)) (kws : List (Key × J)),
    Tr.pyEqKV (Tr.mapKV f kvs) kws = Tr.pyEqKV kvs kws
  | [], kws => by unfold Tr.pyEqKV; rfl
  | (k, v) :: kvs, kws => by
    unfold Tr.pyEqKV
    dsimp only [Tr.mapKV]
    rw [pyEqIn_map_left_of f (fun w => pyEq_map_left v w) kws, pyEqKV_map_left kvs kws]
end

theorem pyEqIn_map_left (k : Key) : ∀ (v : Tr ι) (kws : List (Key × J)),
    Tr.pyEqIn k (v.map f) kws = Tr.pyEqIn k v kws :=
  fun v => pyEqIn_map_left_of f (pyEq_map_left f v)

mutual
theorem cmp_map_left (c : Cmp) : ∀ (x : Tr ι) (v : J), Tr.cmp c (x.map f) v = Tr.cmp c x v
  | .leaf a, v => by unfold Tr.cmp; cases v <;> rfl
  | .list i xs, v => by
    unfold Tr.cmp
    cases v with
    | list j ys => exact cmpL_map_left c xs ys
    | _ => rfl
  | .dict i kvs, v => by unfold Tr.cmp; cases v <;> rfl
theorem cmpL_map_left (c : Cmp) : ∀ (xs : List (Tr ι)) (ys : List J),
    Tr.cmpL c (Tr.mapL f xs) ys = Tr.cmpL c xs ys
  | [], ys => by unfold Tr.cmpL; cases ys <;> rfl
  | x :: xs, ys => by
    unfold Tr.cmpL
    cases ys with
    | nil => rfl
    | cons y ys =>
      dsimp only [Tr.mapL]
      rw [pyEq_map_left f x y, cmpL_map_left c xs ys, cmp_map_left c x y]
end

theorem map_eraseIdx {α β : Type} (g : α → β) (xs : List α) (i : Nat) :
    (xs.map g).eraseIdx i = (xs.eraseIdx i).map g := by
  induction xs generalizing i with
  | nil => simp
  | cons x xs ih => cases i <;> simp [List.eraseIdx, ih]

theorem findFrom_map (v : J) (xs : List (Tr ι)) (a b : Nat) :
    Py.findFrom (fun x => Tr.pyEq x v) (Tr.mapL f xs) a b =
      Py.findFrom (fun x => Tr.pyEq x v) xs a b := by
  simp only [Py.findFrom, mapL_eq_map, List.zipIdx_map, List.filter_map, List.find?_map, Option.map_map,
    Function.comp_def, Prod.map_fst, Prod.map_snd, id_eq, pyEq_map_left]

theorem eraseMany_map (xs : List (Tr ι)) (is : List Nat) :
    Py.eraseMany (Tr.mapL f xs) is = Tr.mapL f (Py.eraseMany xs is) := by
  simp only [Py.eraseMany, mapL_eq_map, List.zipIdx_map, List.filter_map, List.map_map, Function.comp_def,
    Prod.map_fst, Prod.map_snd, id_eq]

theorem setMany_map (xs : List (Tr ι)) (is : List Nat) (vs : List (Tr ι)) :
    Py.setMany (Tr.mapL f xs) is (Tr.mapL f vs) = Tr.mapL f (Py.setMany xs is vs) := by
  induction is generalizing xs vs with
  | nil => simp only [Py.setMany]
  | cons i is ih =>
    cases vs with
    | nil => simp only [Tr.mapL, Py.setMany]
    | cons v vs => simp only [Tr.mapL, Py.setMany, ← ih, mapL_eq_map, List.map_set]

theorem filterMap_getElem_map (xs : List (Tr ι)) (is : List Nat) :
    is.filterMap ((Tr.mapL f xs)[·]?) = Tr.mapL f (is.filterMap (xs[·]?)) := by
  simp only [mapL_eq_map, List.map_filterMap, List.getElem?_map]

theorem insertAt_map (xs : List (Tr ι)) (i : Int) (v : Tr ι) :
    Py.insertAt (Tr.mapL f xs) i (v.map f) = Tr.mapL f (Py.insertAt xs i v) := by
  simp only [Py.insertAt, mapL_eq_map, List.length_map, List.map_append, List.map_cons, List.map_take,
    List.map_drop]

namespace DictMut
def map : DictMut (Tr ι) → DictMut (Tr κ)
  | .setitem k v => .setitem k (v.map f)
  | .delitem k => .delitem k
  | .pop k d => .pop k d
  | .popitem => .popitem
  | .clear => .clear
end DictMut

namespace ListMut
def map : ListMut (Tr ι) → ListMut (Tr κ)
  | .setitem i v => .setitem i (v.map f)
  | .setslice s vs => .setslice s (Tr.mapL f vs)
  | .delitem ix => .delitem ix
  | .insert i v => .insert i (v.map f)
  | .append v => .append (v.map f)
  | .extend vs => .extend (Tr.mapL f vs)
  | .remove v => .remove v
  | .clear => .clear
  | .pop i => .pop i
  | .reverse => .reverse
end ListMut

def BodyRes.mapD (r : BodyRes (List (Key × Tr ι)) ι) : BodyRes (List (Key × Tr κ)) κ :=
  ⟨Tr.mapKV f r.data, r.out.map f, Tr.mapL f r.removed⟩
def BodyRes.mapLst (r : BodyRes (List (Tr ι)) ι) : BodyRes (List (Tr κ)) κ :=
  ⟨Tr.mapL f r.data, r.out.map f, Tr.mapL f r.removed⟩

theorem dictMut_natural (kvs : List (Key × Tr ι)) (m : DictMut (Tr ι)) :
    dictMut (Tr.mapKV f kvs) (m.map f) = (dictMut kvs m).map (BodyRes.mapD f) := by
  cases m with
  | setitem k v =>
    simp only [dictMut, DictMut.map, Except.map, BodyRes.mapD, Out.map, setKey_mapKV, lookup_mapKV,
      mapL_eq_map, Option.toList_map]
  | delitem k | pop k d =>
    simp only [dictMut, DictMut.map, lookup_mapKV]
    cases Tr.lookup k kvs <;> simp only [Option.map, Except.map, BodyRes.mapD, delKey_mapKV, Out.map, Tr.mapL]
  | popitem =>
    simp only [dictMut, DictMut.map, mapKV_eq_map, List.getLast?_map]
    cases kvs.getLast? <;>
      simp only [Option.map, Except.map, BodyRes.mapD, Out.map, Tr.mapL, mapKV_eq_map, List.map_dropLast]
  | clear =>
    simp only [dictMut, DictMut.map, Except.map, BodyRes.mapD, Out.map, Tr.mapKV, mapL_eq_map,
      mapKV_eq_map, List.map_map, Function.comp_def]

theorem listMut_natural (xs : List (Tr ι)) (m : ListMut (Tr ι)) :
    listMut (Tr.mapL f xs) (m.map f) = (listMut xs m).map (BodyRes.mapLst f) := by
  cases m with
  | setitem i v =>
    simp only [listMut, ListMut.map, length_mapL]
    cases Py.normIdx xs.length i with
    | none => rfl
    | some j =>
      simp only [Except.map, BodyRes.mapLst, Out.map, mapL_eq_map, List.map_set, List.getElem?_map,
        Option.toList_map]
  | setslice s vs =>
    simp only [listMut, ListMut.map, length_mapL]
    cases Py.sliceIndices s xs.length with
    | none => rfl
    | some p =>
      simp only [apply_ite (Except.map (BodyRes.mapLst f))]
      simp only [Except.map, BodyRes.mapLst, Out.map, setMany_map, filterMap_getElem_map]
      -- `mapL_eq_map` only now: the two lemmas before speak of `mapL`
      simp only [mapL_eq_map, List.map_append, List.map_take, List.map_drop]
  | delitem ix =>
    cases ix with
    | i i =>
      simp only [listMut, ListMut.map, length_mapL]
      cases Py.normIdx xs.length i with
      | none => rfl
      | some j =>
        simp only [Except.map, BodyRes.mapLst, Out.map, Py.eraseAt, mapL_eq_map, List.getElem?_map,
          map_eraseIdx, Option.toList_map]
    | sl s =>
      simp only [listMut, ListMut.map, length_mapL]
      cases Py.sliceIndices s xs.length with
      | none => rfl
      | some p => simp only [Except.map, BodyRes.mapLst, Out.map, eraseMany_map, filterMap_getElem_map]
  | insert i v =>
    simp only [listMut, ListMut.map, Except.map, BodyRes.mapLst, Out.map, insertAt_map, Tr.mapL]
  | append v =>
    simp only [listMut, ListMut.map, Except.map, BodyRes.mapLst, Out.map, mapL_eq_map, List.map_append,
      List.map_cons, List.map_nil]
  | extend vs =>
    simp only [listMut, ListMut.map, Except.map, BodyRes.mapLst, Out.map, mapL_eq_map, List.map_append,
      List.map_nil]
  | remove v =>
    simp only [listMut, ListMut.map, length_mapL, findFrom_map]
    cases Py.findFrom (fun x => Tr.pyEq x v) xs 0 xs.length with
    | none => rfl
    | some j =>
      simp only [Except.map, BodyRes.mapLst, Out.map, Py.eraseAt, mapL_eq_map, List.getElem?_map,
        map_eraseIdx, Option.toList_map]
  | clear =>
    simp only [listMut, ListMut.map, Except.map, BodyRes.mapLst, Out.map, Tr.mapL]
  | pop i =>
    simp only [listMut, ListMut.map, length_mapL]
    cases Py.normIdx xs.length i with
    | none => rfl
    | some j =>
      simp only [mapL_eq_map, List.getElem?_map]
      cases xs[j]? <;>
        simp only [Option.map, Except.map, BodyRes.mapLst, Out.map, Py.eraseAt, mapL_eq_map, map_eraseIdx,
          List.map_cons, List.map_nil]
  | reverse =>
    simp only [listMut, ListMut.map, Except.map, BodyRes.mapLst, Out.map, mapL_eq_map, List.map_reverse,
      Tr.mapL]

theorem dictRead_natural (i : ι) (kvs : List (Key × Tr ι)) (r : DictRead) :
    dictRead (f i) (Tr.mapKV f kvs) r = (dictRead i kvs r).map (Out.map f) := by
  have e : Tr.dict (f i) (Tr.mapKV f kvs) = (Tr.dict i kvs).map f := rfl
  cases r with
  | getitem k | get k d =>
    simp only [dictRead, lookup_mapKV]
    cases Tr.lookup k kvs <;> rfl
  | contains k => simp only [dictRead, hasKey_mapKV, Except.map, Out.map]
  | len => simp only [dictRead, length_mapKV, Except.map, Out.map]
  | iter | keys => simp only [dictRead, mapKV_eq_map, List.map_map, Function.comp_def, Except.map, Out.map]
  | call | repr => simp only [dictRead, e, toBase_map, Except.map, Out.map]
  | values | items =>
    simp only [dictRead, mapKV_eq_map, List.map_map, Function.comp_def, toBase_map, Except.map, Out.map]
  | eq v | ne v => simp only [dictRead, e, pyEq_map_left, Except.map, Out.map]

theorem listRead_natural (i : ι) (xs : List (Tr ι)) (r : ListRead) :
    listRead (f i) (Tr.mapL f xs) r = (listRead i xs r).map (Out.map f) := by
  have e : Tr.list (f i) (Tr.mapL f xs) = (Tr.list i xs).map f := rfl
  cases r with
  | getitem ix =>
    cases ix with
    | i j =>
      simp only [listRead, length_mapL]
      cases Py.normIdx xs.length j with
      | none => rfl
      | some j =>
        simp only [mapL_eq_map, List.getElem?_map]
        cases xs[j]? <;> rfl
    | sl s =>
      simp only [listRead, length_mapL]
      cases Py.sliceIndices s xs.length with
      | none => rfl
      | some p => simp only [Except.map, Out.map, filterMap_getElem_map]
  | contains v =>
    simp only [listRead, mapL_eq_map, List.any_map, Function.comp_def, pyEq_map_left, Except.map, Out.map]
  | len => simp only [listRead, length_mapL, Except.map, Out.map]
  | iter => simp only [listRead, Except.map, Out.map]
  | reversed => simp only [listRead, mapL_eq_map, List.map_reverse, Except.map, Out.map]
  | call | repr => simp only [listRead, e, toBase_map, Except.map, Out.map]
  | index v a b =>
    simp only [listRead, length_mapL, findFrom_map]
    split <;> rfl
  | count v =>
    simp only [listRead, mapL_eq_map, List.filter_map, List.length_map, Function.comp_def, pyEq_map_left,
      Except.map, Out.map]
  | eq v | ne v => simp only [listRead, e, pyEq_map_left, Except.map, Out.map]
  | cmp c v =>
    simp only [listRead, e, cmp_map_left]
    split <;> rfl

end SC
