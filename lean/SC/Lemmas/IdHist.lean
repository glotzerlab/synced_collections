/-
The identity invariant of HISTORIES: in every state reachable by public calls through any handle,
constructor calls and outside writers, the identities in the objects' trees are pairwise distinct —
within a tree and across objects — and below the counter.  This discharges the identity hypotheses
of the child-handle refinement step (`call_child_refines`) for every reachable state.  The second half
of the file does the same for `OwnOK`: every identity in an object's tree is recorded as allocated for
that object, which is how a nested child finds the root that loads and saves for it.
-/
import SC.Lemmas.IdBody
namespace SC

/-- all container identities in the objects' trees, object by object -/
def flatIds (objs : List Obj) : List Nat := objs.flatMap (fun o => Tr.ids o.root)

/-- identities are pairwise distinct — within each tree and across objects — and below the counter -/
structure IdOK (s : State) : Prop where
  nodup : (flatIds s.objs).Nodup
  bound : ∀ i ∈ flatIds s.objs, i < s.next

theorem IdOK.congr {s s' : State} (h : IdOK s) (ho : s'.objs = s.objs) (hn : s'.next = s.next) : IdOK s' :=
  ⟨by rw [ho]; exact h.nodup, by rw [ho, hn]; exact h.bound⟩

theorem IdOK.of_step {s s' : State} (h : IdOK s) (hs : IdSel s.next (flatIds s.objs) s'.next (flatIds s'.objs)) :
    IdOK s' := ⟨(hs.step h.nodup h.bound).2.1, (hs.step h.nodup h.bound).bound h.bound⟩

theorem flatIds_split {objs : List Obj} {j : Nat} {o : Obj} (h : objs[j]? = some o) :
    ∃ A B, flatIds objs = A ++ Tr.ids o.root ++ B ∧
      ∀ o', flatIds (objs.set j o') = A ++ Tr.ids o'.root ++ B := by
  obtain ⟨hj, rfl⟩ := List.getElem?_eq_some_iff.mp h
  have h2 : ∀ o', flatIds (objs.set j o') =
      flatIds (objs.take j) ++ Tr.ids o'.root ++ flatIds (objs.drop (j + 1)) := by
    simp [flatIds, List.set_eq_take_append_cons_drop, hj]
  -- the first clause is the second at `o' := objs[j]`
  have h1 := h2 objs[j]
  rw [List.set_getElem_self hj] at h1
  exact ⟨_, _, h1, h2⟩

theorem ids_sublist_flat (objs : List Obj) (j : Nat) (o : Obj) (h : objs[j]? = some o) :
    (Tr.ids o.root).Sublist (flatIds objs) := by
  obtain ⟨A, B, h1, -⟩ := flatIds_split h
  rw [h1]
  exact List.sublist_append_of_sublist_left (List.sublist_append_right A _)

theorem IdOK.obj {s : State} (h : IdOK s) {j : Nat} {o : Obj} (ho : s.objs[j]? = some o) :
    (Tr.ids o.root).Nodup ∧ ∀ i ∈ Tr.ids o.root, i < s.next :=
  have hsub := ids_sublist_flat s.objs j o ho
  ⟨hsub.nodup h.nodup, fun i hi => h.bound i (hsub.subset hi)⟩

theorem flat_set_step {n m : Nat} (objs : List Obj) (oi : Nat) (o : Obj) (new : T)
    (h : objs[oi]? = some o) (hs : IdSel n (Tr.ids o.root) m (Tr.ids new)) :
    IdSel n (flatIds objs) m (flatIds (objs.set oi { o with root := new })) := by
  obtain ⟨A, B, h1, h2⟩ := flatIds_split h
  rw [h1, h2]
  exact hs.frame A B

theorem flat_disjoint (objs : List Obj) (j k : Nat) (a b : Obj) (hn : (flatIds objs).Nodup)
    (ha : objs[j]? = some a) (hb : objs[k]? = some b) (hjk : j < k) : ∀ i ∈ Tr.ids a.root, i ∉ Tr.ids b.root := by
  obtain ⟨hj, rfl⟩ := List.getElem?_eq_some_iff.mp ha
  obtain ⟨hk, rfl⟩ := List.getElem?_eq_some_iff.mp hb
  intro i hi hib
  -- `Nodup` of a `flatMap`: the lists of two different members are disjoint
  exact List.pairwise_iff_getElem.mp (List.pairwise_flatMap.mp hn).2 j k hj hk hjk i hi i hib rfl

theorem findSome_none_iff (id : Nat) (objs : List Obj) :
    objs.findSome? (fun o => Tr.find id o.root) = none ↔ id ∉ flatIds objs := by
  simp only [List.findSome?_eq_none_iff, flatIds, List.mem_flatMap, not_exists, not_and]
  exact ⟨fun h o ho => not_mem_of_find_none id o.root (h o ho),
    fun h o ho => find_none_of_not_mem id o.root (h o ho)⟩

theorem not_mem_flat_of_findSome_none (id : Nat) (objs : List Obj)
    (h : objs.findSome? (fun o => Tr.find id o.root) = none) : id ∉ flatIds objs :=
  (findSome_none_iff id objs).mp h

theorem map_replace_of_not_mem (id : Nat) (new : T) (objs : List Obj) (h : id ∉ flatIds objs) :
    objs.map (fun o => { o with root := Tr.replace id new o.root }) = objs :=
  map_eq_self fun o ho => by
    rw [replace_of_not_mem id new o.root (fun hm => h (List.mem_flatMap.mpr ⟨o, ho, hm⟩))]

/-- where storing through a node handle lands: in the one object whose tree holds the identity -/
theorem map_replace_eq_set (id : Nat) (new : T) : ∀ (objs : List Obj) (c : T), (flatIds objs).Nodup →
    objs.findSome? (fun o => Tr.find id o.root) = some c →
    ∃ j oj, objs[j]? = some oj ∧ Tr.find id oj.root = some c ∧
      objs.map (fun o => { o with root := Tr.replace id new o.root }) =
        objs.set j { oj with root := Tr.replace id new oj.root } := by
  intro objs c hn hf
  -- the objects before the first that holds `id` do not hold it; nor do those after it (`Nodup`)
  obtain ⟨l₁, x, l₂, rfl, hx, hpre⟩ := List.findSome?_eq_some_iff.mp hf
  have h1 : id ∉ flatIds l₁ := (findSome_none_iff id l₁).mp (List.findSome?_eq_none_iff.mpr hpre)
  have h2 : id ∉ flatIds l₂ := by
    simp only [flatIds, List.flatMap_append, List.flatMap_cons, List.nodup_append] at hn
    exact fun hm => hn.2.1.2.2 id (mem_ids_of_find id x.root c hx) id hm rfl
  refine ⟨l₁.length, x, by simp, hx, ?_⟩
  simp [map_replace_of_not_mem id new _ h1, map_replace_of_not_mem id new _ h2]

/-- WHERE THE RESULT OF A BODY LANDS.  The handle denotes `t`, and `new` comes from `t` by a step.
Storing `new` through the handle changes no object (the node is detached), or the tree of exactly
one object — the one the handle is the root of, or whose tree holds the handle's identity — and
that tree makes the same step. -/
theorem putNode_step {s : State} {h : Handle} {t new : T} {m : Nat} (hok : IdOK s)
    (hn : handleNode s h = some t) (hs : IdSel s.next (Tr.ids t) m (Tr.ids new)) :
    (putNode s h new).objs = s.objs ∨
    ∃ j oj new', s.objs[j]? = some oj ∧ (putNode s h new).objs = s.objs.set j { oj with root := new' } ∧
      IdSel s.next (Tr.ids oj.root) m (Tr.ids new') ∧
      (h = .root j ∨ ∃ id, h = .node id ∧ id ∈ Tr.ids oj.root) := by
  rcases handleNode_cases hn with ⟨o', ob, rfl, hob, rfl⟩ | ⟨id, rfl, hfs⟩ | ⟨id, rfl, hfs, -⟩
  · exact .inr ⟨o', ob, new, hob, by rw [putNode_root hob]; rfl, hs, .inl rfl⟩
  · obtain ⟨j, oj, hj, hfj, heq⟩ := map_replace_eq_set id new s.objs t hok.nodup hfs
    exact .inr ⟨j, oj, _, hj, heq, replace_sel id new s.next m oj.root t (hok.obj hj).1 hfj hs,
      .inr ⟨id, rfl, mem_ids_of_find id oj.root t hfj⟩⟩
  · exact .inl (map_replace_of_not_mem id new s.objs ((findSome_none_iff id s.objs).mp hfs))

theorem loadRoot_step (s : State) (oi : Nat) :
    IdSel s.next (flatIds s.objs) (loadRoot s oi).1.next (flatIds (loadRoot s oi).1.objs) := by
  rcases loadRoot_cases s oi with h1 | ⟨o, d, ho, hst, -⟩
  · rw [h1]; exact .refl _ _
  · rw [loadRoot_objs ho hst, loadRoot_next ho hst]
    exact flat_set_step s.objs oi o _ ho (updNode_sel (s.fam o) d o.root s.next)

theorem loadRoot_idOK (s : State) (oi : Nat) (h : IdOK s) : IdOK (loadRoot s oi).1 :=
  h.of_step (loadRoot_step s oi)

theorem applyBody_idOK (fam : Fam) (s1 : State) (h : Handle) (oi : Nat) (t : T) (op : Op) (hok : IdOK s1)
    (hnode : handleNode s1 h = some t) :
    IdOK (applyBody s1 h oi (runBody fam t op s1.next)) := by
  refine hok.of_step ?_
  rw [applyBody_objs, applyBody_next]
  rcases putNode_step hok hnode (runBody_sel fam t op s1.next) with h1 | ⟨j, oj, new', hj, h1, hs, -⟩ <;> rw [h1]
  · exact .refl_le _ (runBody_sel fam t op s1.next).1
  · exact flat_set_step s1.objs j oj new' hj hs

/-- EVERY PUBLIC CALL keeps the invariant: any handle (root, attached or detached child, dangling),
any operation, any argument, whether it returns or raises -/
theorem call_idOK (s : State) (h : Handle) (op : Op) (hok : IdOK s) : IdOK (call s h op).1 :=
  call_preserves hok (fun oi => loadRoot_idOK s oi hok)
    (fun {oi _ o _ s1 t} c h1 => applyBody_idOK (s.fam o) s1 h oi t op h1 c.hnode)
    (fun _ s2 oi h2 => h2.congr (saveRoot_objs s2 oi) (saveRoot_next s2 oi))

theorem IdOK.append {s : State} (hok : IdOK s) (o : Obj) (a m : Nat) (hf : Tr.ids o.root = fresh s.next m)
    (hle : s.next ≤ m) : IdOK (({ s with objs := s.objs ++ [o] } : State).own a s.next m) := by
  refine hok.of_step ?_
  rw [State.own_objs, State.own_next]
  have : flatIds (s.objs ++ [o]) = flatIds s.objs ++ fresh s.next m := by simp [flatIds, hf]
  rw [this]
  exact ⟨hle, .refl _⟩

theorem openObj_idOK (s : State) (fam : Nat) (isDict : Bool) (res : Nat) (data : Option J) (hok : IdOK s) :
    IdOK (openObj s fam isDict res data).1 := by
  rcases openObj_cases s fam isDict res data with h | ⟨d, h, -⟩ <;> rw [h]
  · exact hok
  · exact hok.append _ _ _ (fromBase_ids d s.next).2 (fromBase_ids d s.next).1

theorem empty_idOK (fams : List Fam) : IdOK (State.empty fams) :=
  ⟨.nil, nofun⟩

theorem sstep_idOK (s : State) (st : SStep) (h : IdOK s) : IdOK (sstep s st) := by
  cases st with
  | call hd op => exact call_idOK s hd op h
  | openObj d r data => exact openObj_idOK s 0 d r data h
  | ext r d => exact h.congr rfl rfl

theorem srun_idOK (history : List SStep) (s : State) (h : IdOK s) : IdOK (srun s history) :=
  srun_induct h (fun s st _ => sstep_idOK s st)

/-- the owner table as a pure function of the list of ranges -/
def ownerOfL (owners : List (Nat × Nat × Nat)) (id : Nat) : Option Nat :=
  (owners.find? (fun r => r.2.1 ≤ id ∧ id < r.2.2)).map (·.1)

theorem ownerOf_eq (s : State) (id : Nat) : s.ownerOf id = ownerOfL s.owners id := rfl

theorem ownerOfL_ownList (owners : List (Nat × Nat × Nat)) (a lo hi id : Nat) :
    ownerOfL (ownList owners a lo hi) id =
      (ownerOfL owners id).or (if lo ≤ id ∧ id < hi then some a else none) := by
  unfold ownList ownerOfL
  split
  · rw [List.find?_append, Option.map_or]
    by_cases h : lo ≤ id ∧ id < hi <;> simp [h]
  · rw [if_neg (by omega), Option.or_none]

theorem ownerOfL_stable (owners : List (Nat × Nat × Nat)) (a lo hi id b : Nat)
    (h : ownerOfL owners id = some b) : ownerOfL (ownList owners a lo hi) id = some b := by
  rw [ownerOfL_ownList, h, Option.some_or]

theorem ownerOfL_old (owners : List (Nat × Nat × Nat)) (a lo hi id : Nat) (h : id < lo) :
    ownerOfL (ownList owners a lo hi) id = ownerOfL owners id := by
  rw [ownerOfL_ownList, if_neg (by omega), Option.or_none]

theorem ownerOfL_new (owners : List (Nat × Nat × Nat)) (a lo hi id : Nat)
    (hr : ∀ r ∈ owners, r.2.2 ≤ lo) (h1 : lo ≤ id) (h2 : id < hi) :
    ownerOfL (ownList owners a lo hi) id = some a := by
  have hnone : ownerOfL owners id = none := by
    unfold ownerOfL
    rw [Option.map_eq_none_iff, List.find?_eq_none]
    intro r hrm
    have := hr r hrm
    simp only [decide_eq_true_eq, not_and]
    intro _; omega
  rw [ownerOfL_ownList, hnone, if_pos ⟨h1, h2⟩, Option.none_or]

theorem ranges_ownList (owners : List (Nat × Nat × Nat)) (a lo hi : Nat)
    (hr : ∀ r ∈ owners, r.2.2 ≤ lo) (hle : lo ≤ hi) : ∀ r ∈ ownList owners a lo hi, r.2.2 ≤ hi := by
  have hold : ∀ r ∈ owners, r.2.2 ≤ hi := fun r h => Nat.le_trans (hr r h) hle
  unfold ownList
  split
  · exact List.forall_mem_append.mpr ⟨hold, List.forall_mem_singleton.mpr (Nat.le_refl hi)⟩
  · exact hold

/-- every range ends below the counter, and every identity in an object's tree was allocated on
behalf of that object (so a nested child finds the root that loads and saves for it) -/
structure OwnOK (s : State) : Prop where
  ranges : ∀ r ∈ s.owners, r.2.2 ≤ s.next
  owner : ∀ j o, s.objs[j]? = some o → ∀ i ∈ Tr.ids o.root, s.ownerOf i = some j

theorem lt_next_of_owner {s : State} (hown : OwnOK s) {id a : Nat} (h : s.ownerOf id = some a) : id < s.next := by
  obtain ⟨r, hf, -⟩ := Option.map_eq_some_iff.mp h
  have hp := List.find?_some hf
  have := hown.ranges r (List.mem_of_find?_eq_some hf)
  simp only [decide_eq_true_eq] at hp
  omega

/-- recording the range `[s.next, m)` for object `a` keeps `OwnOK` if every identity in a tree
afterwards was in the same object's tree before, or lies in the new range and the object is `a` -/
theorem OwnOK.record {s s' : State} {a m : Nat} (hown : OwnOK s) (hle : s.next ≤ m)
    (howners : s'.owners = ownList s.owners a s.next m) (hnext : s'.next = m)
    (hids : ∀ k o', s'.objs[k]? = some o' → ∀ i ∈ Tr.ids o'.root,
      (∃ o, s.objs[k]? = some o ∧ i ∈ Tr.ids o.root) ∨ (k = a ∧ s.next ≤ i ∧ i < m)) : OwnOK s' := by
  refine ⟨by rw [howners, hnext]; exact ranges_ownList _ _ _ _ hown.ranges hle, fun k o' hk i hi => ?_⟩
  rw [ownerOf_eq, howners]
  rcases hids k o' hk i hi with ⟨o, ho, hio⟩ | ⟨rfl, h1, h2⟩
  · exact ownerOfL_stable _ _ _ _ _ _ (hown.owner k o ho i hio)
  · exact ownerOfL_new _ _ _ _ _ hown.ranges h1 h2

theorem OwnOK.set {s s' : State} {j : Nat} {oj : Obj} {new : T} {m : Nat} (hown : OwnOK s)
    (hj : s.objs[j]? = some oj) (hs : IdSel s.next (Tr.ids oj.root) m (Tr.ids new))
    (hobjs : s'.objs = s.objs.set j { oj with root := new })
    (howners : s'.owners = ownList s.owners j s.next m) (hnext : s'.next = m) : OwnOK s' := by
  refine hown.record hs.1 howners hnext fun k o' hk i hi => ?_
  by_cases hkj : k = j
  · subst hkj
    rw [hobjs, List.getElem?_set_self (List.getElem?_eq_some_iff.mp hj).1] at hk
    cases hk
    exact (hs.mem hi).imp (fun ho => ⟨oj, hj, ho⟩) (fun hf => ⟨rfl, hf⟩)
  · rw [hobjs, List.getElem?_set_ne (Ne.symm hkj)] at hk
    exact .inl ⟨o', hk, hi⟩

theorem loadRoot_ownOK (s : State) (oi : Nat) (hown : OwnOK s) : OwnOK (loadRoot s oi).1 := by
  rcases loadRoot_cases s oi with h1 | ⟨o, d, ho, hst, h1⟩
  · rw [h1]; exact hown
  · exact hown.set ho (updNode_sel (s.fam o) d o.root s.next)
      (loadRoot_objs ho hst) (by simp [h1]) (loadRoot_next ho hst)

theorem loadFor_ownerOf (s : State) (oi : Nat) (b : Bool) (op : Op) (id a : Nat)
    (h : s.ownerOf id = some a) : (loadFor s oi b op).1.ownerOf id = some a := by
  rcases loadFor_cases s oi b op with h1 | h1 <;> rw [h1]
  · exact h
  · rcases loadRoot_cases s oi with h2 | ⟨o, d, -, -, h2⟩ <;> rw [h2]
    · exact h
    · simp only [ownerOf_eq, State.addDetached_owners, owners_own, State.setObj_owners]
      exact ownerOfL_stable _ _ _ _ _ _ h

theorem loadFor_handleOwner {s : State} {h : Handle} {x : Nat × Bool} (oi : Nat) (b : Bool) (op : Op)
    (hh : handleOwner s h = some x) : handleOwner (loadFor s oi b op).1 h = some x := by
  cases h with
  | root o' => simpa [handleOwner] using hh
  | node id =>
    simp only [handleOwner, Option.map_eq_some_iff] at hh ⊢
    obtain ⟨a, ha, rfl⟩ := hh
    exact ⟨a, loadFor_ownerOf s oi b op id a ha, rfl⟩

theorem applyBody_ownOK (fam : Fam) (s1 : State) (h : Handle) (oi : Nat) (isRoot : Bool) (t : T) (op : Op)
    (hok : IdOK s1) (hown : OwnOK s1) (hnode : handleNode s1 h = some t)
    (howner : handleOwner s1 h = some (oi, isRoot)) :
    OwnOK (applyBody s1 h oi (runBody fam t op s1.next)) := by
  rcases putNode_step hok hnode (runBody_sel fam t op s1.next) with h1 | ⟨j, oj, new', hj, h1, hs, hh⟩
  · exact hown.record (runBody_sel fam t op s1.next).1 (applyBody_owners ..) (applyBody_next ..)
      fun k o' hk i hi => .inl ⟨o', by rwa [applyBody_objs, h1] at hk, hi⟩
  · -- the object whose tree changes is the one the range is recorded for
    have hjoi : j = oi := by
      rcases hh with rfl | ⟨id, rfl, hmem⟩
      · simp only [handleOwner] at howner
        split at howner
        · cases howner; rfl
        · cases howner
      · simp only [handleOwner, hown.owner j oj hj id hmem, Option.map_some, Option.some.injEq,
          Prod.mk.injEq] at howner
        exact howner.1
    subst hjoi
    exact hown.set hj hs (by rw [applyBody_objs, h1]) (applyBody_owners ..) (applyBody_next ..)

theorem OwnOK.congr {s s' : State} (h : OwnOK s) (ho : s'.objs = s.objs) (hw : s'.owners = s.owners)
    (hn : s'.next = s.next) : OwnOK s' :=
  ⟨by rw [hw, hn]; exact h.ranges, by
    intro j o hj i hi
    rw [ownerOf_eq, hw]; rw [ho] at hj
    exact h.owner j o hj i hi⟩

theorem call_ownOK (s : State) (h : Handle) (op : Op) (hok : IdOK s) (hown : OwnOK s) :
    OwnOK (call s h op).1 :=
  (call_preserves (I := fun x => IdOK x ∧ OwnOK x) ⟨hok, hown⟩
    (fun oi => ⟨loadRoot_idOK s oi hok, loadRoot_ownOK s oi hown⟩)
    (fun {oi isRoot o _ s1 t} c h1 =>
      ⟨applyBody_idOK (s.fam o) s1 h oi t op h1.1 c.hnode,
        applyBody_ownOK (s.fam o) s1 h oi isRoot t op h1.1 h1.2 c.hnode
          (c.hload ▸ loadFor_handleOwner oi isRoot op c.howner)⟩)
    (fun _ s2 oi h2 => ⟨h2.1.congr (saveRoot_objs s2 oi) (saveRoot_next s2 oi),
      h2.2.congr (saveRoot_objs s2 oi) (saveRoot_owners s2 oi) (saveRoot_next s2 oi)⟩)).2

theorem OwnOK.append {s : State} (hown : OwnOK s) (o : Obj) (m : Nat) (hf : Tr.ids o.root = fresh s.next m)
    (hle : s.next ≤ m) : OwnOK (({ s with objs := s.objs ++ [o] } : State).own s.objs.length s.next m) := by
  refine hown.record hle (owners_own ..) (State.own_next ..) fun k o' hk i hi => ?_
  rw [State.own_objs] at hk
  change (s.objs ++ [o])[k]? = some o' at hk
  rcases Nat.lt_or_ge k s.objs.length with hlt | hge
  · rw [List.getElem?_append_left hlt] at hk
    exact .inl ⟨o', hk, hi⟩
  · rw [List.getElem?_append_right hge, List.getElem?_singleton] at hk
    split at hk <;> simp only [Option.some.injEq, reduceCtorEq] at hk
    subst hk
    exact .inr ⟨by omega, mem_fresh.mp (hf ▸ hi)⟩

theorem openObj_ownOK (s : State) (fam : Nat) (isDict : Bool) (res : Nat) (data : Option J)
    (hown : OwnOK s) : OwnOK (openObj s fam isDict res data).1 := by
  rcases openObj_cases s fam isDict res data with h | ⟨d, h, -⟩ <;> rw [h]
  · exact hown
  · exact hown.append _ _ (fromBase_ids d s.next).2 (fromBase_ids d s.next).1

theorem empty_ownOK (fams : List Fam) : OwnOK (State.empty fams) :=
  ⟨nofun, by simp [State.empty]⟩

theorem sstep_ownOK (s : State) (st : SStep) (h : IdOK s) (ho : OwnOK s) : OwnOK (sstep s st) := by
  cases st with
  | call hd op => exact call_ownOK s hd op h ho
  | openObj d r data => exact openObj_ownOK s 0 d r data ho
  | ext r d => exact ho.congr rfl rfl rfl

theorem srun_ownOK (history : List SStep) (s : State) (h : IdOK s) (ho : OwnOK s) :
    IdOK (srun s history) ∧ OwnOK (srun s history) :=
  srun_induct (I := fun x => IdOK x ∧ OwnOK x) ⟨h, ho⟩
    (fun s st _ h => ⟨sstep_idOK s st h.1, sstep_ownOK s st h.1 h.2⟩)

end SC
