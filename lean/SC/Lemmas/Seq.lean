/-
Structural facts about the sequential machine (`Seq.lean`): what every update of the state does to
every field, the states one public call (`call`) can end in, where it saves, what it leaves alone.
-/
import SC.Seq
namespace SC

theorem loadRoot_eq (s : State) (oi : Nat) (o : Obj) (d : J) (ho : s.objs[oi]? = some o)
    (hst : s.store o.res = some d) :
    loadRoot s oi =
      ((((s.setObj oi { o with root := (updNode (s.fam o) o.root d s.next).val }).own oi s.next
          (updNode (s.fam o) o.root d s.next).next).addDetached oi (updNode (s.fam o) o.root d s.next).det),
       (updNode (s.fam o) o.root d s.next).err) := by
  unfold loadRoot
  simp only [ho, hst]

theorem loadRoot_cases (s : State) (oi : Nat) :
    (loadRoot s oi).1 = s ∨
    ∃ o d, s.objs[oi]? = some o ∧ s.store o.res = some d ∧
      (loadRoot s oi).1 = ((s.setObj oi { o with root := (updNode (s.fam o) o.root d s.next).val }).own oi s.next
          (updNode (s.fam o) o.root d s.next).next).addDetached oi (updNode (s.fam o) o.root d s.next).det := by
  cases ho : s.objs[oi]? with
  | none => exact .inl (by simp only [loadRoot, ho])
  | some o =>
    cases hst : s.store o.res with
    | none => exact .inl (by simp only [loadRoot, ho, hst])
    | some d => exact .inr ⟨o, d, rfl, hst, by rw [loadRoot_eq s oi o d ho hst]⟩

theorem loadFor_cases (s : State) (oi : Nat) (b : Bool) (op : Op) :
    loadFor s oi b op = (s, none) ∨ loadFor s oi b op = loadRoot s oi := by
  unfold loadFor; split
  · exact .inl rfl
  · exact .inr rfl

/-- what `State.own` does to the list of ranges -/
def ownList (owners : List (Nat × Nat × Nat)) (a lo hi : Nat) : List (Nat × Nat × Nat) :=
  if lo < hi then owners ++ [(a, lo, hi)] else owners

@[simp] theorem State.setObj_fams (s : State) (i : Nat) (o : Obj) : (s.setObj i o).fams = s.fams := rfl
@[simp] theorem State.setObj_stores (s : State) (i : Nat) (o : Obj) : (s.setObj i o).stores = s.stores := rfl
@[simp] theorem State.setObj_objs (s : State) (i : Nat) (o : Obj) : (s.setObj i o).objs = s.objs.set i o := rfl
@[simp] theorem State.setObj_detached (s : State) (i : Nat) (o : Obj) : (s.setObj i o).detached = s.detached := rfl
@[simp] theorem State.setObj_owners (s : State) (i : Nat) (o : Obj) : (s.setObj i o).owners = s.owners := rfl

@[simp] theorem State.own_fams (s : State) (a b c : Nat) : (s.own a b c).fams = s.fams := by
  unfold own; split <;> rfl
@[simp] theorem State.own_stores (s : State) (a b c : Nat) : (s.own a b c).stores = s.stores := by
  unfold own; split <;> rfl
@[simp] theorem State.own_objs (s : State) (a b c : Nat) : (s.own a b c).objs = s.objs := by
  unfold own; split <;> rfl
@[simp] theorem State.own_detached (s : State) (a b c : Nat) : (s.own a b c).detached = s.detached := by
  unfold own; split <;> rfl
@[simp] theorem State.own_next (s : State) (a b c : Nat) : (s.own a b c).next = c := by
  unfold own; split <;> rfl
@[simp] theorem owners_own (s : State) (a lo hi : Nat) : (s.own a lo hi).owners = ownList s.owners a lo hi := by
  unfold State.own ownList; split <;> rfl

@[simp] theorem State.addDetached_fams (s : State) (i : Nat) (ts : List T) : (s.addDetached i ts).fams = s.fams := rfl
@[simp] theorem State.addDetached_stores (s : State) (i : Nat) (ts : List T) :
    (s.addDetached i ts).stores = s.stores := rfl
@[simp] theorem State.addDetached_objs (s : State) (i : Nat) (ts : List T) :
    (s.addDetached i ts).objs = s.objs := rfl
@[simp] theorem State.addDetached_detached (s : State) (i : Nat) (ts : List T) :
    (s.addDetached i ts).detached = s.detached ++ (containers ts).map (fun t => (i, t)) := rfl
@[simp] theorem State.addDetached_owners (s : State) (i : Nat) (ts : List T) :
    (s.addDetached i ts).owners = s.owners := rfl
@[simp] theorem State.addDetached_next (s : State) (i : Nat) (ts : List T) : (s.addDetached i ts).next = s.next := rfl

@[simp] theorem putNode_fams (s : State) (h : Handle) (t : T) : (putNode s h t).fams = s.fams := by
  unfold putNode; split
  · split <;> rfl
  · rfl
@[simp] theorem putNode_stores (s : State) (h : Handle) (t : T) : (putNode s h t).stores = s.stores := by
  unfold putNode; split
  · split <;> rfl
  · rfl
@[simp] theorem putNode_owners (s : State) (h : Handle) (t : T) : (putNode s h t).owners = s.owners := by
  unfold putNode; split
  · split <;> rfl
  · rfl
@[simp] theorem putNode_objs_length (s : State) (h : Handle) (t : T) :
    (putNode s h t).objs.length = s.objs.length := by
  unfold putNode; split
  · split <;> simp
  · simp [replaceNode]

@[simp] theorem applyBody_fams (s : State) (h : Handle) (oi : Nat) (r : NodeRes) :
    (applyBody s h oi r).fams = s.fams := by simp [applyBody]
@[simp] theorem applyBody_stores (s : State) (h : Handle) (oi : Nat) (r : NodeRes) :
    (applyBody s h oi r).stores = s.stores := by simp [applyBody]
theorem applyBody_objs (s1 : State) (h : Handle) (oi : Nat) (r : NodeRes) :
    (applyBody s1 h oi r).objs = (putNode s1 h r.node).objs := by simp [applyBody]
theorem applyBody_owners (s1 : State) (h : Handle) (oi : Nat) (r : NodeRes) :
    (applyBody s1 h oi r).owners = ownList s1.owners oi s1.next r.next := by
  simp [applyBody]
@[simp] theorem applyBody_next (s1 : State) (h : Handle) (oi : Nat) (r : NodeRes) :
    (applyBody s1 h oi r).next = r.next := by simp [applyBody]
@[simp] theorem applyBody_objs_length (s : State) (h : Handle) (oi : Nat) (r : NodeRes) :
    (applyBody s h oi r).objs.length = s.objs.length := by simp [applyBody]

@[simp] theorem saveRoot_fams (s : State) (oi : Nat) : (saveRoot s oi).fams = s.fams := by
  unfold saveRoot; split <;> rfl
@[simp] theorem saveRoot_objs (s : State) (oi : Nat) : (saveRoot s oi).objs = s.objs := by
  unfold saveRoot; split <;> rfl
@[simp] theorem saveRoot_owners (s : State) (oi : Nat) : (saveRoot s oi).owners = s.owners := by
  unfold saveRoot; split <;> rfl
@[simp] theorem saveRoot_next (s : State) (oi : Nat) : (saveRoot s oi).next = s.next := by
  unfold saveRoot; split <;> rfl

@[simp] theorem loadRoot_fams (s : State) (oi : Nat) : (loadRoot s oi).1.fams = s.fams := by
  rcases loadRoot_cases s oi with h | ⟨o, d, -, -, h⟩ <;> simp [h]
@[simp] theorem loadRoot_stores (s : State) (oi : Nat) : (loadRoot s oi).1.stores = s.stores := by
  rcases loadRoot_cases s oi with h | ⟨o, d, -, -, h⟩ <;> simp [h]
@[simp] theorem loadRoot_objs_length (s : State) (oi : Nat) :
    (loadRoot s oi).1.objs.length = s.objs.length := by
  rcases loadRoot_cases s oi with h | ⟨o, d, -, -, h⟩ <;> simp [h]

@[simp] theorem loadFor_fams (s : State) (oi : Nat) (b : Bool) (op : Op) :
    (loadFor s oi b op).1.fams = s.fams := by
  rcases loadFor_cases s oi b op with h | h <;> simp [h]
@[simp] theorem loadFor_objs_length (s : State) (oi : Nat) (b : Bool) (op : Op) :
    (loadFor s oi b op).1.objs.length = s.objs.length := by
  rcases loadFor_cases s oi b op with h | h <;> simp [h]

namespace State

theorem store_setStore (s : State) (r : Nat) (d : J) : (s.setStore r d).store r = some d := by
  simp [store, setStore]

theorem mem_setStore {s : State} {r : Nat} {d : J} {p : Nat × J} (h : p ∈ (s.setStore r d).stores) :
    p = (r, d) ∨ p ∈ s.stores :=
  (List.mem_cons.mp h).imp_right fun h => (List.mem_filter.mp h).1

end State

theorem objs_own (s : State) (a b c : Nat) : (s.own a b c).objs = s.objs := s.own_objs a b c
theorem stores_own (s : State) (a b c : Nat) : (s.own a b c).stores = s.stores := s.own_stores a b c
theorem stores_addDetached (s : State) (oi : Nat) (ts : List T) : (s.addDetached oi ts).stores = s.stores := rfl
theorem objs_addDetached (s : State) (oi : Nat) (ts : List T) : (s.addDetached oi ts).objs = s.objs := rfl

theorem fam_eq_of_fams {s s' : State} (hf : s'.fams = s.fams) (o : Obj) : s'.fam o = s.fam o := by
  simp [State.fam, hf]

theorem handleNode_cases {s : State} {h : Handle} {t : T} (hn : handleNode s h = some t) :
    (∃ o ob, h = .root o ∧ s.objs[o]? = some ob ∧ ob.root = t) ∨
    (∃ id, h = .node id ∧ s.objs.findSome? (fun o => Tr.find id o.root) = some t) ∨
    ∃ id, h = .node id ∧ s.objs.findSome? (fun o => Tr.find id o.root) = none ∧
      s.detached.findSome? (fun p => Tr.find id p.2) = some t := by
  cases h with
  | root o =>
    simp only [handleNode, Option.map_eq_some_iff] at hn
    obtain ⟨ob, hob, rfl⟩ := hn
    exact .inl ⟨o, ob, rfl, hob, rfl⟩
  | node id =>
    simp only [handleNode, findNode] at hn
    split at hn
    · next c hc => cases hn; exact .inr (.inl ⟨id, rfl, hc⟩)
    · next hc => exact .inr (.inr ⟨id, rfl, hc, hn⟩)

theorem putNode_root {s : State} {o : Nat} {ob : Obj} (h : s.objs[o]? = some ob) (t : T) :
    putNode s (.root o) t = s.setObj o { ob with root := t } := by
  simp only [putNode, h]

/-! Where the body of an operation is one plain method, `runBody` is `dmutRes` / `lmutRes` (or the
merge) by `rfl`.  The bodies that decide something first are stated here: rewriting with these is
much cheaper to check than unfolding `runBody`. -/

section
variable (fam : Fam) (i : Nat) (kvs : List (Key × T)) (xs : List T) (n : Nat)

theorem runBody_leaf (s : Scalar) (op : Op) :
    runBody fam (.leaf s) op n = ⟨.leaf s, .unit, [], n, some (.other "WrongKind")⟩ := by
  cases op <;> rfl

theorem runBody_dSetdefault (k : Key) (d : J) : runBody fam (.dict i kvs) (.dSetdefault k d) n =
    match Tr.lookup k kvs with
    | some v => ⟨.dict i kvs, .node v, [], n, none⟩
    | none =>
      match validateKV fam.dictV [(k, d)] with
      | some e => ⟨.dict i kvs, .unit, [], n, some e⟩
      | none => ⟨.dict i (Tr.setKey k (fromBase d n).1 kvs), .node (fromBase d n).1, [], (fromBase d n).2, none⟩ := rfl

theorem runBody_dUpdate (other kw : List (Key × J)) : runBody fam (.dict i kvs) (.dUpdate other kw) n =
    let r := updDictLoop fam kvs (overrideOrder kvs (kw.foldl (fun acc kv => Tr.setKey kv.1 kv.2 acc)
      (other.foldl (fun acc kv => Tr.setKey kv.1 kv.2 acc) []))) n
    ⟨.dict i r.val, .unit, r.det, r.next, r.err⟩ := rfl

theorem runBody_dRead (rd : DictRead) : runBody fam (.dict i kvs) (.dRead rd) n =
    match dictRead i kvs rd with
    | .error e => ⟨.dict i kvs, .unit, [], n, some e⟩
    | .ok o => ⟨.dict i kvs, o, [], n, none⟩ := rfl

theorem runBody_lSetslice (s : Slice) (v : J) : runBody fam (.list i xs) (.lSetitem (.sl s) v) n =
    match iterate (fromBase v n).1 with
    | .error e => ⟨.list i xs, .unit, [], (fromBase v n).2, some e⟩
    | .ok vs => lmutRes (.list i xs) i xs (.setslice s vs) (fromBase v n).2 := rfl

theorem runBody_lExtend (v : J) : runBody fam (.list i xs) (.lExtend v) n =
    match iterate v with
    | .error e => ⟨.list i xs, .unit, [], n, some e⟩
    | .ok vs => lmutRes (.list i xs) i xs (.extend (fromBaseL vs n).1) (fromBaseL vs n).2 := rfl

theorem runBody_lIadd (v : J) : runBody fam (.list i xs) (.lIadd v) n = runBody fam (.list i xs) (.lExtend v) n := rfl

theorem runBody_lRead (rd : ListRead) : runBody fam (.list i xs) (.lRead rd) n =
    match listRead i xs rd with
    | .error e => ⟨.list i xs, .unit, [], n, some e⟩
    | .ok o => ⟨.list i xs, o, [], n, none⟩ := rfl

end

theorem saveRoot_store {s : State} {oi : Nat} {o : Obj} (h : s.objs[oi]? = some o) :
    (saveRoot s oi).store o.res = some o.root.toBase := by
  simp only [saveRoot, h]
  exact State.store_setStore _ _ _

theorem loadRoot_err {s : State} {oi : Nat} {o : Obj} {d : J} (ho : s.objs[oi]? = some o)
    (hst : s.store o.res = some d) : (loadRoot s oi).2 = (updNode (s.fam o) o.root d s.next).err := by
  rw [loadRoot_eq s oi o d ho hst]

theorem loadRoot_objs {s : State} {oi : Nat} {o : Obj} {d : J} (ho : s.objs[oi]? = some o)
    (hst : s.store o.res = some d) :
    (loadRoot s oi).1.objs = s.objs.set oi { o with root := (updNode (s.fam o) o.root d s.next).val } := by
  simp [loadRoot_eq s oi o d ho hst]

theorem loadRoot_obj {s : State} {oi : Nat} {o : Obj} {d : J} (ho : s.objs[oi]? = some o)
    (hst : s.store o.res = some d) :
    (loadRoot s oi).1.objs[oi]? = some { o with root := (updNode (s.fam o) o.root d s.next).val } := by
  rw [loadRoot_objs ho hst]
  exact List.getElem?_set_self (List.getElem?_eq_some_iff.mp ho).1

theorem loadRoot_next {s : State} {oi : Nat} {o : Obj} {d : J} (ho : s.objs[oi]? = some o)
    (hst : s.store o.res = some d) : (loadRoot s oi).1.next = (updNode (s.fam o) o.root d s.next).next := by
  simp [loadRoot_eq s oi o d ho hst]

theorem loadRoot_detached {s : State} {oi : Nat} {o : Obj} {d : J} (ho : s.objs[oi]? = some o)
    (hst : s.store o.res = some d) :
    (loadRoot s oi).1.detached =
      s.detached ++ (containers (updNode (s.fam o) o.root d s.next).det).map (fun t => (oi, t)) := by
  simp [loadRoot_eq s oi o d ho hst]

theorem isRead_cases {op : Op} (hr : op.isRead = true) : (∃ r, op = .dRead r) ∨ ∃ r, op = .lRead r := by
  cases op with
  | dRead r => exact .inl ⟨r, rfl⟩
  | lRead r => exact .inr ⟨r, rfl⟩
  | _ => cases hr

theorem preValidate_read (fam : Fam) (b : Bool) (op : Op) (hr : op.isRead = true) : preValidate fam b op = none := by
  rcases isRead_cases hr with ⟨r, rfl⟩ | ⟨r, rfl⟩ <;> rfl

theorem preValidate_irrel (fam : Fam) (b b' : Bool) (op : Op) : preValidate fam b op = preValidate fam b' op := by
  cases op <;> rfl

theorem isOverwrite_read (op : Op) (hr : op.isRead = true) : op.isOverwrite = false := by
  rcases isRead_cases hr with ⟨r, rfl⟩ | ⟨r, rfl⟩ <;> rfl

@[simp] theorem finishCall_fst (s2 : State) (oi : Nat) (op : Op) (r : NodeRes) :
    (finishCall s2 oi op r).1 = if op.isRead then s2 else saveRoot s2 oi := by
  unfold finishCall; cases r.err <;> rfl

@[simp] theorem finishCall_snd (s2 : State) (oi : Nat) (op : Op) (r : NodeRes) :
    (finishCall s2 oi op r).2 = match r.err with | some e => .error e | none => .ok r.out := by
  unfold finishCall; cases r.err <;> rfl

theorem finishCall_store {s2 : State} {oi : Nat} {op : Op} {r : NodeRes} {o : Obj} {root : T}
    (hm : op.isRead = false) (h : s2.objs[oi]? = some { o with root := root }) :
    (finishCall s2 oi op r).1.store o.res = some root.toBase := by
  simp only [finishCall_fst, hm, Bool.false_eq_true, if_false]
  exact saveRoot_store h

/-- what is known where `call` installs the result of the body: owner and node of the handle in
the state `s` of the call, the state `s1` after the load (if there is one; it did not raise) and
the node `t` there -/
structure CallAt (s : State) (h : Handle) (op : Op) (oi : Nat) (isRoot : Bool) (o : Obj) (t0 : T)
    (s1 : State) (t : T) : Prop where
  howner : handleOwner s h = some (oi, isRoot)
  hnode0 : handleNode s h = some t0
  hobj : s.objs[oi]? = some o
  hpre : preValidate (s.fam o) t0.isDict op = none
  hlerr : (loadFor s oi isRoot op).2 = none
  hload : (loadFor s oi isRoot op).1 = s1
  hnode : handleNode s1 h = some t

theorem CallAt.call_eq {s s1 : State} {h : Handle} {op : Op} {oi : Nat} {isRoot : Bool} {o : Obj} {t0 t : T}
    (c : CallAt s h op oi isRoot o t0 s1 t) :
    call s h op = finishCall (applyBody s1 h oi (runBody (s.fam o) t op s1.next)) oi op
      (runBody (s.fam o) t op s1.next) := by
  obtain ⟨ho, hn, hobj, hpre, hle, rfl, hnode⟩ := c
  unfold call
  simp only [ho, hn, hobj]
  unfold callOn
  simp only [hpre, hle, hnode]

/-- the states a call can end in: it raises before anything is done, or after the load, or it
installs the result of the body and finishes (`CallAt.call_eq`) -/
theorem call_cases (s : State) (h : Handle) (op : Op) :
    (∃ e, call s h op = (s, .error e)) ∨
    (∃ oi isRoot e, call s h op = ((loadFor s oi isRoot op).1, .error e)) ∨
    ∃ oi isRoot o t0 s1 t, CallAt s h op oi isRoot o t0 s1 t := by
  unfold call
  split
  · next oi isRoot t0 ho hn =>
    split
    · exact .inl ⟨_, rfl⟩
    · next o hobj =>
      unfold callOn
      split
      · exact .inl ⟨_, rfl⟩
      · next hpre =>
        dsimp only
        split
        · exact .inr (.inl ⟨oi, isRoot, _, rfl⟩)
        · next hle =>
          split
          · exact .inr (.inl ⟨oi, isRoot, _, rfl⟩)
          · next t hnode => exact .inr (.inr ⟨oi, isRoot, o, t0, _, t, ho, hn, hobj, hpre, hle, rfl, hnode⟩)
  · exact .inl ⟨_, rfl⟩

/-- An `I` kept by the load of a root, by installing a body's result given what is known at that
point (`CallAt`), and by the save for a mutator, is kept by `call`. -/
theorem call_preserves {I : State → Prop} {s : State} {h : Handle} {op : Op} (h0 : I s)
    (hload : ∀ oi, I (loadRoot s oi).1)
    (hbody : ∀ {oi isRoot o t0 s1 t}, CallAt s h op oi isRoot o t0 s1 t → I s1 →
      I (applyBody s1 h oi (runBody (s.fam o) t op s1.next)))
    (hsave : op.isRead = false → ∀ s2 oi, I s2 → I (saveRoot s2 oi)) :
    I (call s h op).1 := by
  have h1 : ∀ oi isRoot, I (loadFor s oi isRoot op).1 := fun oi isRoot => by
    rcases loadFor_cases s oi isRoot op with h' | h' <;> rw [h']
    · exact h0
    · exact hload oi
  rcases call_cases s h op with ⟨e, hc⟩ | ⟨oi, isRoot, e, hc⟩ | ⟨oi, isRoot, o, t0, s1, t, c⟩
  · exact hc ▸ h0
  · exact hc ▸ h1 oi isRoot
  · have h2 := hbody c (c.hload ▸ h1 oi isRoot)
    rw [c.call_eq, finishCall_fst]
    split
    · exact h2
    · next hr => exact hsave (eq_false_of_ne_true hr) _ oi h2

/-- **reads never write**: whatever a read operation does (load, merge, navigation,
error), the backend contents are exactly what they were, and a missing resource
stays missing. -/
theorem call_read_stores (s : State) (h : Handle) (op : Op) (hr : op.isRead = true) :
    (call s h op).1.stores = s.stores :=
  call_preserves (I := fun x => x.stores = s.stores) rfl (loadRoot_stores s)
    (fun _ h1 => by rw [applyBody_stores, h1]) (fun hm => by simp [hr] at hm)

theorem call_fams (s : State) (hd : Handle) (op : Op) : (call s hd op).1.fams = s.fams :=
  call_preserves (I := fun x => x.fams = s.fams) rfl (loadRoot_fams s)
    (fun c _ => by rw [applyBody_fams, ← c.hload, loadFor_fams])
    (fun _ _ _ h2 => by rw [saveRoot_fams, h2])

theorem openObj_cases (s : State) (fam : Nat) (isDict : Bool) (res : Nat) (data : Option J) :
    (openObj s fam isDict res data).1 = s ∨
    ∃ d : J, (openObj s fam isDict res data).1 =
        ({ s with objs := s.objs ++ [(⟨fam, isDict, res, (fromBase d s.next).1⟩ : Obj)] } : State).own
          s.objs.length s.next (fromBase d s.next).2 ∧
      ((data = none ∧ d = if isDict then .dict () [] else .list () []) ∨
       (data = some d ∧
        validate (if isDict then (s.fams.getD fam default).dictV else (s.fams.getD fam default).listV) d = none)) := by
  unfold openObj
  cases data with
  | none => exact .inr ⟨_, by cases isDict <;> rfl, .inl ⟨rfl, rfl⟩⟩
  | some d =>
    dsimp only
    split
    · exact .inl rfl
    · split
      · exact .inl rfl
      · next hv => exact .inr ⟨d, rfl, .inr ⟨rfl, hv⟩⟩

theorem openObj_fams (s : State) (fam : Nat) (d : Bool) (r : Nat) (data : Option J) :
    (openObj s fam d r data).1.fams = s.fams := by
  rcases openObj_cases s fam d r data with h | ⟨_, h, -⟩ <;> rw [h]
  rw [State.own_fams]

theorem srun_induct {I : State → Prop} {history : List SStep} {s : State} (h0 : I s)
    (hstep : ∀ s, ∀ st ∈ history, I s → I (sstep s st)) : I (srun s history) :=
  List.foldlRecOn history sstep h0 fun s hs st hst => hstep s st hst hs

end SC
