/-
L3 — the one-lock machine is linearizable.  `Inv` holds along every schedule: exactly the lock
owner is inside; the state, once the owner's pending actions are applied, is the serial result of
the log; a thread's logged and remaining operations make up its program.  `linearizable` reads it
off when all are done; `run_keeps` carries any predicate the actions keep.  `Locks`: no deadlock
under a rank hierarchy (ranks would climb past their sum); with a gate lock, by reduction to that.
-/
import SC.Conc
namespace SC.Conc

variable {Sh : Type}

theorem Op.apply_cons (f : Sh → Sh) (fs : Op Sh) (s : Sh) : Op.apply (f :: fs) s = Op.apply fs (f s) := rfl
theorem Op.apply_nil (s : Sh) : Op.apply ([] : Op Sh) s = s := rfl

theorem serial_append (σ0 : Sh) (log : List (Nat × Op Sh)) (e : Nat × Op Sh) :
    serial σ0 (log ++ [e]) = e.2.apply (serial σ0 log) := by
  simp [serial, List.foldl_append]

/-- the actions the lock owner still has to perform -/
def pending (c : Cfg Sh) : Op Sh :=
  match c.owner with
  | none => []
  | some t => ((c.ths[t]?).bind (·.cur)).getD []

structure Inv (σ0 : Sh) (progs : List (List (Op Sh))) (c : Cfg Sh) : Prop where
  /-- exactly the lock owner is inside a critical section -/
  inside : ∀ t th, c.ths[t]? = some th → (th.cur.isSome ↔ c.owner = some t)
  /-- the owner is an existing thread -/
  ownerOk : ∀ t, c.owner = some t → ∃ th, c.ths[t]? = some th
  /-- if the owner finished its remaining actions, the state would be the serial result of the log -/
  state : (pending c).apply c.σ = serial σ0 c.log
  len : c.ths.length = progs.length
  /-- the log restricted to a thread, followed by what it still has to issue, is its program -/
  prog : ∀ t th, c.ths[t]? = some th →
    progs[t]? = some ((c.log.filter (·.1 = t)).map (·.2) ++ th.todo)
  /-- only existing threads enter the log -/
  logOk : ∀ e ∈ c.log, e.1 < c.ths.length

theorem init_thread {σ0 : Sh} {progs : List (List (Op Sh))} {t : Nat} {th : Th Sh}
    (h : (init σ0 progs).ths[t]? = some th) : ∃ p, progs[t]? = some p ∧ th = ⟨none, p⟩ := by
  simp only [init, List.getElem?_map, Option.map_eq_some_iff] at h
  obtain ⟨p, hp, rfl⟩ := h
  exact ⟨p, hp, rfl⟩

theorem inv_init (σ0 : Sh) (progs : List (List (Op Sh))) : Inv σ0 progs (init σ0 progs) where
  inside := by
    intro t th h
    obtain ⟨p, _, rfl⟩ := init_thread h
    simp [init]
  ownerOk := nofun
  state := rfl
  len := List.length_map _
  prog := by
    intro t th h
    obtain ⟨p, hp, rfl⟩ := init_thread h
    simp [init, hp]
  logOk := List.forall_mem_nil _

theorem filter_append_other {t u : Nat} (log : List (Nat × Op Sh)) (op : Op Sh) (h : u ≠ t) :
    ((log ++ [(t, op)]).filter (·.1 = u)) = log.filter (·.1 = u) := by
  rw [List.filter_append, List.filter_cons_of_neg fun e => h (of_decide_eq_true e).symm, List.filter_nil,
    List.append_nil]

theorem filter_append_same (t : Nat) (log : List (Nat × Op Sh)) (op : Op Sh) :
    ((log ++ [(t, op)]).filter (·.1 = t)) = log.filter (·.1 = t) ++ [(t, op)] := by
  simp [List.filter_append]

/-- reading a list after one position was overwritten -/
theorem getElem?_set_cases {α : Type} {l : List α} {t u : Nat} {a b : α} (h : (l.set t a)[u]? = some b) :
    (u = t ∧ b = a) ∨ (u ≠ t ∧ l[u]? = some b) := by
  by_cases e : t = u
  · rw [← e, List.getElem?_set_self'] at h
    obtain ⟨_, _, hb⟩ := Option.map_eq_some_iff.mp h
    exact .inl ⟨e.symm, hb.symm⟩
  · exact .inr ⟨fun e' => e e'.symm, List.getElem?_set_ne e ▸ h⟩

theorem inv_step (σ0 : Sh) (progs : List (List (Op Sh))) (c : Cfg Sh) (t : Nat)
    (h : Inv σ0 progs c) : Inv σ0 progs (step c t) := by
  unfold step
  cases hth : c.ths[t]? with
  | none => exact h
  | some th =>
    have hlt : t < c.ths.length := (List.getElem?_eq_some_iff.mp hth).1
    have hlog : ∀ (th' : Th Sh), ∀ e ∈ c.log, e.1 < (c.ths.set t th').length := by
      intro th' e he; rw [List.length_set]; exact h.logOk e he
    simp only
    cases hcur : th.cur with
    | none =>
      simp only
      cases htodo : th.todo with
      | nil => exact h
      | cons op rest =>
        simp only
        by_cases hown : c.owner = none
        · -- acquire
          simp only [hown, if_true]
          refine ⟨?_, ?_, ?_, List.length_set.trans h.len, ?_, ?_⟩
          · intro u thu hu
            rcases getElem?_set_cases hu with ⟨rfl, rfl⟩ | ⟨hut, hu⟩
            · simp
            · have := (h.inside u thu hu).mp
              simp only [hown, reduceCtorEq, imp_false] at this
              simp [this, Ne.symm hut]
          · intro u hu
            cases hu
            exact ⟨_, List.getElem?_set_self hlt⟩
          · have hs := h.state
            simp only [pending, hown, Op.apply_nil] at hs
            simp only [pending, List.getElem?_set_self hlt, Option.bind_some, Option.getD_some]
            rw [serial_append, ← hs]
          · intro u thu hu
            rcases getElem?_set_cases hu with ⟨rfl, rfl⟩ | ⟨hut, hu⟩
            · rw [h.prog u th hth, htodo, filter_append_same]
              simp
            · rw [filter_append_other _ _ hut]
              exact h.prog u thu hu
          · rw [List.length_set]
            exact List.forall_mem_append.mpr ⟨h.logOk, List.forall_mem_singleton.mpr hlt⟩
        · simp only [hown, if_false]; exact h
    | some acts =>
      have hisowner : c.owner = some t := (h.inside t th hth).mp (by simp [hcur])
      have hprog : ∀ (th' : Th Sh), th'.todo = th.todo → ∀ u thu, (c.ths.set t th')[u]? = some thu →
          progs[u]? = some ((c.log.filter (·.1 = u)).map (·.2) ++ thu.todo) := by
        intro th' htd u thu hu
        rcases getElem?_set_cases hu with ⟨rfl, rfl⟩ | ⟨_, hu⟩
        · rw [htd]; exact h.prog u th hth
        · exact h.prog u thu hu
      have hs : acts.apply c.σ = serial σ0 c.log := by
        simpa only [pending, hisowner, hth, hcur, Option.bind_some, Option.getD_some] using h.state
      cases acts with
      | nil =>
        -- release
        simp only
        refine ⟨fun u thu hu => ?_, (fun u hu => nomatch hu), hs, List.length_set.trans h.len, hprog _ rfl, hlog _⟩
        rcases getElem?_set_cases hu with ⟨rfl, rfl⟩ | ⟨hut, hu⟩
        · simp
        · have := h.inside u thu hu
          simp only [hisowner, Option.some.injEq] at this
          simp [this, Ne.symm hut]
      | cons f fs =>
        -- one action inside the critical section
        simp only
        refine ⟨?_, ?_, ?_, List.length_set.trans h.len, hprog _ rfl, hlog _⟩
        · intro u thu hu
          rcases getElem?_set_cases hu with ⟨rfl, rfl⟩ | ⟨_, hu⟩
          · simp [hisowner]
          · exact h.inside u thu hu
        · intro u hu
          rw [hisowner] at hu; cases hu
          exact ⟨_, List.getElem?_set_self hlt⟩
        · simp only [pending, hisowner, List.getElem?_set_self hlt, Option.bind_some, Option.getD_some]
          exact hs

theorem inv_run (σ0 : Sh) (progs : List (List (Op Sh))) (sched : List Nat) (c : Cfg Sh)
    (h : Inv σ0 progs c) : Inv σ0 progs (run c sched) :=
  List.foldlRecOn sched step h fun c h t _ => inv_step σ0 progs c t h

/-- The machine only ever applies actions of its programs: a predicate on the shared state that
every action of every operation keeps holds at every moment of every execution (finished or not). -/
theorem run_keeps (P : Sh → Prop) (progs : List (List (Op Sh)))
    (hact : ∀ p ∈ progs, ∀ op ∈ p, ∀ f ∈ op, ∀ s, P s → P (f s)) (σ0 : Sh) (h0 : P σ0) (sched : List Nat) :
    P (run (init σ0 progs) sched).σ := by
  -- invariant: `P` holds, and whatever a thread still has to do consists of `P`-keeping actions
  let K (f : Sh → Sh) : Prop := ∀ s, P s → P (f s)
  let G (th : Th Sh) : Prop :=
    (∀ op ∈ th.todo, ∀ f ∈ op, K f) ∧ ∀ acts, th.cur = some acts → ∀ f ∈ acts, K f
  let J (c : Cfg Sh) : Prop := P c.σ ∧ ∀ th ∈ c.ths, G th
  have hstep : ∀ c t, J c → J (step c t) := by
    intro c t ⟨hP, hths⟩
    unfold step
    cases hth : c.ths[t]? with
    | none => exact ⟨hP, hths⟩
    | some th =>
      obtain ⟨htodo, hcur⟩ := hths th (List.mem_of_getElem? hth)
      have hset : ∀ th', G th' → ∀ x ∈ c.ths.set t th', G x := fun th' h' x hx =>
        (List.mem_or_eq_of_mem_set hx).elim (hths x) (· ▸ h')
      simp only
      split
      · split
        · exact ⟨hP, hths⟩
        · next op rest htd =>
          obtain ⟨hop, hrest⟩ := List.forall_mem_cons.mp (htd ▸ htodo)
          split
          · exact ⟨hP, hset _ ⟨hrest, fun _ ha => Option.some.inj ha ▸ hop⟩⟩
          · exact ⟨hP, hths⟩
      · exact ⟨hP, hset _ ⟨htodo, fun _ ha => nomatch ha⟩⟩
      · next f fs hc =>
        obtain ⟨hf, hfs⟩ := List.forall_mem_cons.mp (hcur _ hc)
        exact ⟨hf _ hP, hset _ ⟨htodo, fun _ ha => Option.some.inj ha ▸ hfs⟩⟩
  refine (List.foldlRecOn sched step (motive := J) ⟨h0, ?_⟩ fun c h t _ => hstep c t h).1
  intro th hth
  obtain ⟨p, hp, rfl⟩ := List.mem_map.mp hth
  exact ⟨hact p hp, fun _ ha => nomatch ha⟩

theorem logged_thread_exists (σ0 : Sh) (progs : List (List (Op Sh))) (sched : List Nat)
    (e : Nat × Op Sh) (he : e ∈ (run (init σ0 progs) sched).log) : e.1 < progs.length := by
  have h := inv_run σ0 progs sched _ (inv_init σ0 progs)
  rw [← h.len]; exact h.logOk e he

theorem done_owner {σ0 : Sh} {progs : List (List (Op Sh))} {c : Cfg Sh} (h : Inv σ0 progs c)
    (hd : Done c) : c.owner = none := by
  cases ho : c.owner with
  | none => rfl
  | some t =>
    obtain ⟨th, hth⟩ := h.ownerOk t ho
    have := (h.inside t th hth).mpr ho
    rw [(hd th (List.mem_of_getElem? hth)).1] at this
    cases this

/-- LINEARIZABILITY: for every set of thread programs, every initial state and every schedule
that runs all threads to completion, the final state is the result of executing the operations
one at a time in the order in which they entered the lock, and that order is an interleaving of
the threads' programs (each thread's operations appear in it in program order, all of them). -/
theorem linearizable (σ0 : Sh) (progs : List (List (Op Sh))) (sched : List Nat)
    (hd : Done (run (init σ0 progs) sched)) :
    (run (init σ0 progs) sched).σ = serial σ0 (run (init σ0 progs) sched).log ∧
    ∀ t p, progs[t]? = some p →
      ((run (init σ0 progs) sched).log.filter (·.1 = t)).map (·.2) = p := by
  have h := inv_run σ0 progs sched _ (inv_init σ0 progs)
  generalize run (init σ0 progs) sched = c at h hd ⊢
  refine ⟨?_, fun t p hp => ?_⟩
  · simpa [pending, done_owner h hd, Op.apply_nil] using h.state
  · have hlt : t < c.ths.length := h.len ▸ (List.getElem?_eq_some_iff.mp hp).1
    have := h.prog t _ (List.getElem?_eq_getElem hlt)
    rw [(hd _ (List.getElem_mem hlt)).2, List.append_nil, hp] at this
    exact (Option.some.inj this).symm

end SC.Conc

namespace SC.Conc.Locks

theorem le_sum_of_mem {l : List Nat} {x : Nat} (h : x ∈ l) : x ≤ l.sum := by
  obtain ⟨s, t, rfl⟩ := List.append_of_mem h
  rw [List.sum_append, List.sum_cons]
  exact Nat.le_trans (Nat.le_add_right x _) (Nat.le_add_left _ _)

/-- DEADLOCK FREEDOM by lock hierarchy: if every blocked thread waits for a lock ranked above
all locks it holds, no set of threads can be waiting for each other. -/
theorem no_deadlock (rank : Nat → Nat) (ths : List ThL) (ho : Ordered rank ths) :
    ¬ Deadlocked ths := by
  intro ⟨⟨th0, hth0, hw0⟩, hall⟩
  -- every blocked thread's awaited rank is exceeded by another blocked thread's
  have climb : ∀ k, ∃ th ∈ ths, ∃ w, th.waits = some w ∧ k ≤ rank w := by
    intro k
    induction k with
    | zero =>
      obtain ⟨w, hw⟩ := Option.isSome_iff_exists.mp hw0
      exact ⟨th0, hth0, w, hw, Nat.zero_le _⟩
    | succ k ih =>
      obtain ⟨th, hth, w, hw, hk⟩ := ih
      obtain ⟨u, hu, hwu, huw⟩ := hall th hth w hw
      obtain ⟨w', hw'⟩ := Option.isSome_iff_exists.mp huw
      exact ⟨u, hu, w', hw', Nat.lt_of_le_of_lt hk (ho u hu w' hw' w hwu)⟩
  let B := (ths.map (fun th => match th.waits with | some w => rank w | none => 0)).sum
  obtain ⟨th, hth, w, hw, hk⟩ := climb (B + 1)
  have : rank w ≤ B := le_sum_of_mem (List.mem_map.mpr ⟨th, hth, by rw [hw]⟩)
  exact Nat.not_succ_le_self B (Nat.le_trans hk this)

/-- the hierarchy with a GATE: a thread may wait for a lock of rank `r` while holding locks of the
same rank, provided it holds the gate lock `g` (in the library: inside a buffered context the
first load of a file takes that file's lock while another file's lock is held - always under
the class-wide buffer lock) -/
def OrderedG (rank : Nat → Nat) (g r : Nat) (ths : List ThL) : Prop :=
  ∀ th ∈ ths, ∀ w, th.waits = some w → ∀ l ∈ th.holds,
    rank l < rank w ∨ (rank l = r ∧ rank w = r ∧ g ∈ th.holds)

/-- DEADLOCK FREEDOM with a gate lock: if (1) every blocked thread waits for a lock ranked above
all it holds, or of the gated rank while it holds the gate, (2) whoever holds a lock of the gated
rank holds the gate, (3) the gate is held by one thread at a time, (4) nobody waits for a lock it
holds (the locks are re-entrant) - then no set of threads can be waiting for each other. -/
theorem no_deadlock_gated (rank : Nat → Nat) (g r : Nat) (ths : List ThL)
    (ho : OrderedG rank g r ths)
    (hG : ∀ u ∈ ths, ∀ l ∈ u.holds, rank l = r → g ∈ u.holds)
    (hex : ∀ th ∈ ths, ∀ u ∈ ths, g ∈ th.holds → g ∈ u.holds → th = u)
    (hself : ∀ th ∈ ths, ∀ w, th.waits = some w → w ∉ th.holds) :
    ¬ Deadlocked ths := fun hd =>
  -- in a deadlock the gated alternative never applies, so the threads are plainly `Ordered`
  no_deadlock rank ths (fun u hu w' hw' l hl => by
    rcases ho u hu w' hw' l hl with hlt | ⟨_, hr', hgu⟩
    · exact hlt
    · -- whoever holds `w'` holds the gate too, so it is `u` itself, which does not wait for its own lock
      obtain ⟨v, hv, hwv, _⟩ := hd.2 u hu w' hw'
      have huv := hex u hu v hv hgu (hG v hv w' hwv hr')
      subst huv
      exact absurd hwv (hself u hu w' hw')) hd

/-- the audit of acquisitions implies the hierarchy hypothesis: if every blocked thread's pending
acquisition passes `acquireOk` for the roles of the locks it holds, the threads are `Ordered`
for the rank `lock ↦ rank (role lock)` -/
theorem ordered_of_audit (role : Nat → Role) (ths : List ThL)
    (h : ∀ th ∈ ths, ∀ w, th.waits = some w → acquireOk (th.holds.map role) (role w) = true) :
    Ordered (fun l => (role l).rank) ths := by
  intro th hth w hw l hl
  exact of_decide_eq_true (List.all_eq_true.mp (h th hth w hw) (role l) (List.mem_map.mpr ⟨l, hl, rfl⟩))

end SC.Conc.Locks
