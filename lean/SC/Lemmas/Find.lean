/-
`Tr.find` and `Tr.replace` address a node by its identity.  The node found is the tree itself or
lies below one of its children, so it has whatever children inherit (`find_hered`); it is found
exactly when the identity occurs (`find_eq_none_iff`); replacing touches nothing where the identity
does not occur, and keeps what children inherit and an exchange of children keeps (`replace_hered`).
-/
import SC.Lemmas.TrList
namespace SC
open Tr

theorem ids_eq (t : T) : Tr.ids t = t.id?.toList ++ t.kids.flatMap Tr.ids := by
  cases t <;> simp [Tr.ids, Tr.id?, Tr.kids, idsL_eq, idsKV_eq, List.flatMap_map]

theorem find_eq (h : Nat) (t : T) :
    Tr.find h t = if t.id? = some h then some t else t.kids.findSome? (Tr.find h) := by
  cases t <;> simp [Tr.find, Tr.id?, Tr.kids, findL_eq, findKV_eq, List.findSome?_map, Function.comp_def]

theorem replace_eq (h : Nat) (new t : T) :
    Tr.replace h new t = if t.id? = some h then new else t.mapKids (Tr.replace h new) := by
  cases t <;> simp [Tr.replace, Tr.id?, Tr.mapKids, replaceL_eq, replaceKV_eq]

theorem ids_kid_sublist {t c : T} (hc : c ∈ t.kids) : (Tr.ids c).Sublist (Tr.ids t) := by
  rw [ids_eq t]; exact (flatMap_sublist_of_mem Tr.ids hc).trans (List.sublist_append_right _ _)

theorem ids_sublist_of_lookup {k : Key} {kvs : List (Key × T)} {x : T} (h : Tr.lookup k kvs = some x) :
    (Tr.ids x).Sublist (Tr.idsKV kvs) :=
  idsKV_eq kvs ▸ flatMap_sublist_of_mem (fun kv => Tr.ids kv.2) (mem_of_lookup h)

theorem ids_of_lookup {k : Key} {kvs : List (Key × T)} {x : T} (h : Tr.lookup k kvs = some x) :
    ∀ i ∈ Tr.ids x, i ∈ Tr.idsKV kvs :=
  fun _ hi => (ids_sublist_of_lookup h).subset hi

theorem nodup_of_lookup {k : Key} {kvs : List (Key × T)} {x : T} (hn : (Tr.idsKV kvs).Nodup)
    (h : Tr.lookup k kvs = some x) : (Tr.ids x).Nodup :=
  hn.sublist (ids_sublist_of_lookup h)

theorem findL_some {h : Nat} {xs : List T} {c : T} (hf : Tr.findL h xs = some c) :
    ∃ x ∈ xs, Tr.find h x = some c := by
  rw [findL_eq] at hf; exact List.exists_of_findSome?_eq_some hf

theorem findKV_some {h : Nat} {kvs : List (Key × T)} {c : T} (hf : Tr.findKV h kvs = some c) :
    ∃ kv ∈ kvs, Tr.find h kv.2 = some c := by
  rw [findKV_eq] at hf; exact List.exists_of_findSome?_eq_some hf

theorem find_hered {P : T → Prop} (hP : ∀ t, P t → ∀ c ∈ t.kids, P c) {h : Nat} {c : T} :
    ∀ {t : T}, P t → Tr.find h t = some c → P c := by
  intro t
  induction t using Tr.kidsInd with
  | node t ih =>
    intro ht
    rw [find_eq]
    split
    · rintro ⟨⟩; exact ht
    · intro hf
      obtain ⟨x, hx, hfx⟩ := List.exists_of_findSome?_eq_some hf
      exact ih x hx (hP t ht x hx) hfx

theorem find_wf (h : Nat) : ∀ (t c : T), t.wf = true → Tr.find h t = some c → c.wf = true :=
  fun _ _ => find_hered fun _ => wf_kids
theorem findL_wf (h : Nat) : ∀ (xs : List T) (c : T), Tr.wfL xs = true → Tr.findL h xs = some c → c.wf = true := by
  intro xs c hw hf
  obtain ⟨x, hx, hfx⟩ := findL_some hf
  exact find_wf h x c (wfL_iff.mp hw x hx) hfx
theorem findKV_wf (h : Nat) : ∀ (kvs : List (Key × T)) (c : T), Tr.wfKV kvs = true →
    Tr.findKV h kvs = some c → c.wf = true := by
  intro kvs c hw hf
  obtain ⟨kv, hkv, hfx⟩ := findKV_some hf
  exact find_wf h kv.2 c (wf_values_of_wfKV hw kv hkv) hfx

theorem find_ids_sublist (h : Nat) : ∀ (t c : T), Tr.find h t = some c → (Tr.ids c).Sublist (Tr.ids t) :=
  fun t _ => find_hered (P := fun x => (Tr.ids x).Sublist (Tr.ids t))
    (fun _ hx _ hc => (ids_kid_sublist hc).trans hx) (List.Sublist.refl _)
theorem findL_ids_sublist (h : Nat) : ∀ (xs : List T) (c : T), Tr.findL h xs = some c →
    (Tr.ids c).Sublist (Tr.idsL xs) := by
  intro xs c hf
  obtain ⟨x, hx, hfx⟩ := findL_some hf
  rw [idsL_eq]; exact (find_ids_sublist h x c hfx).trans (flatMap_sublist_of_mem _ hx)
theorem findKV_ids_sublist (h : Nat) : ∀ (kvs : List (Key × T)) (c : T), Tr.findKV h kvs = some c →
    (Tr.ids c).Sublist (Tr.idsKV kvs) := by
  intro kvs c hf
  obtain ⟨kv, hkv, hfx⟩ := findKV_some hf
  rw [idsKV_eq]; exact (find_ids_sublist h kv.2 c hfx).trans (flatMap_sublist_of_mem (fun kv => Tr.ids kv.2) hkv)

theorem find_id {h : Nat} {c : T} : ∀ {t : T}, Tr.find h t = some c → c.id? = some h := by
  intro t
  induction t using Tr.kidsInd with
  | node t ih =>
    rw [find_eq]
    split
    · rintro ⟨⟩; assumption
    · intro hf
      obtain ⟨x, hx, hfx⟩ := List.exists_of_findSome?_eq_some hf
      exact ih x hx hfx

theorem mem_ids_of_id? {t : T} {h : Nat} (hi : t.id? = some h) : h ∈ Tr.ids t := by
  rw [ids_eq, hi]; exact List.mem_cons_self

theorem find_self_mem (h : Nat) : ∀ (t c : T), Tr.find h t = some c → h ∈ Tr.ids c :=
  fun _ _ hf => mem_ids_of_id? (find_id hf)
theorem findL_self_mem (h : Nat) : ∀ (xs : List T) (c : T), Tr.findL h xs = some c → h ∈ Tr.ids c := by
  intro xs c hf
  obtain ⟨x, _, hfx⟩ := findL_some hf
  exact find_self_mem h x c hfx
theorem findKV_self_mem (h : Nat) : ∀ (kvs : List (Key × T)) (c : T), Tr.findKV h kvs = some c → h ∈ Tr.ids c := by
  intro kvs c hf
  obtain ⟨kv, _, hfx⟩ := findKV_some hf
  exact find_self_mem h kv.2 c hfx

theorem mem_ids_of_find (h : Nat) : ∀ (t c : T), Tr.find h t = some c → h ∈ Tr.ids t :=
  fun t c hf => (find_ids_sublist h t c hf).subset (find_self_mem h t c hf)
theorem mem_idsKV_of_findKV (h : Nat) : ∀ (kvs : List (Key × T)) (c : T), Tr.findKV h kvs = some c →
    h ∈ Tr.idsKV kvs :=
  fun kvs c hf => (findKV_ids_sublist h kvs c hf).subset (findKV_self_mem h kvs c hf)

theorem find_eq_none_iff {h : Nat} : ∀ {t : T}, Tr.find h t = none ↔ h ∉ Tr.ids t := by
  intro t
  induction t using Tr.kidsInd with
  | node t ih =>
    have hk : t.kids.findSome? (Tr.find h) = none ↔ h ∉ t.kids.flatMap Tr.ids := by
      simp only [List.findSome?_eq_none_iff, List.mem_flatMap, not_exists, not_and]
      exact forall_congr' fun c => imp_congr_right (ih c)
    rw [find_eq, ids_eq, List.mem_append, not_or, ← hk]
    cases hi : t.id? with
    | none => simp
    | some i =>
      by_cases e : i = h
      · simp [e]
      · simp [e, Ne.symm e]

theorem findL_eq_none_iff {h : Nat} {xs : List T} : Tr.findL h xs = none ↔ h ∉ Tr.idsL xs := by
  simp only [findL_eq, idsL_eq, List.findSome?_eq_none_iff, List.mem_flatMap, find_eq_none_iff, not_exists,
    not_and]

theorem findKV_eq_none_iff {h : Nat} {kvs : List (Key × T)} : Tr.findKV h kvs = none ↔ h ∉ Tr.idsKV kvs := by
  simp only [findKV_eq, idsKV_eq, List.findSome?_eq_none_iff, List.mem_flatMap, find_eq_none_iff, not_exists,
    not_and]

theorem find_none_of_not_mem (h : Nat) : ∀ (t : T), h ∉ Tr.ids t → Tr.find h t = none :=
  fun _ => find_eq_none_iff.mpr
theorem findL_none_of_not_mem (h : Nat) : ∀ (xs : List T), h ∉ Tr.idsL xs → Tr.findL h xs = none :=
  fun _ => findL_eq_none_iff.mpr
theorem findKV_none_of_not_mem (h : Nat) : ∀ (kvs : List (Key × T)), h ∉ Tr.idsKV kvs → Tr.findKV h kvs = none :=
  fun _ => findKV_eq_none_iff.mpr

theorem not_mem_of_find_none (h : Nat) : ∀ (t : T), Tr.find h t = none → h ∉ Tr.ids t :=
  fun _ => find_eq_none_iff.mp
theorem not_mem_of_findL_none (h : Nat) : ∀ (xs : List T), Tr.findL h xs = none → h ∉ Tr.idsL xs :=
  fun _ => findL_eq_none_iff.mp
theorem not_mem_of_findKV_none (h : Nat) : ∀ (kvs : List (Key × T)), Tr.findKV h kvs = none →
    h ∉ Tr.idsKV kvs :=
  fun _ => findKV_eq_none_iff.mp

theorem replace_of_not_mem (h : Nat) (new : T) : ∀ (t : T), h ∉ Tr.ids t → Tr.replace h new t = t := by
  intro t
  induction t using Tr.kidsInd with
  | node t ih =>
    intro hn
    rw [ids_eq, List.mem_append, not_or, List.mem_flatMap] at hn
    rw [replace_eq, if_neg (fun e => hn.1 (by simp [e]))]
    exact mapKids_id fun c hc => ih c hc fun hm => hn.2 ⟨c, hc, hm⟩

theorem replace_forest_id (h : Nat) (new : T) {l : List T} (hl : ∀ y ∈ l, h ∉ Tr.ids y) :
    l.map (Tr.replace h new) = l :=
  map_eq_self fun y hy => replace_of_not_mem h new y (hl y hy)

theorem replaceL_of_not_mem (h : Nat) (new : T) : ∀ (xs : List T), h ∉ Tr.idsL xs → Tr.replaceL h new xs = xs := by
  intro xs hn
  rw [replaceL_eq]
  exact replace_forest_id h new fun y hy hm => hn (idsL_eq xs ▸ (flatMap_sublist_of_mem _ hy).subset hm)
theorem replaceKV_of_not_mem (h : Nat) (new : T) : ∀ (kvs : List (Key × T)), h ∉ Tr.idsKV kvs →
    Tr.replaceKV h new kvs = kvs := by
  intro kvs hn
  rw [replaceKV_eq]
  exact mapSnd_eq_self fun kv hkv => replace_of_not_mem h new kv.2 fun hm =>
    hn (idsKV_eq kvs ▸ (flatMap_sublist_of_mem (fun kv => Tr.ids kv.2) hkv).subset hm)

theorem replace_hered {P : T → Prop} (hkids : ∀ t, P t → ∀ c ∈ t.kids, P c)
    (hmap : ∀ (t : T) (g : T → T), P t → (∀ c ∈ t.kids, P (g c)) → P (t.mapKids g))
    {h : Nat} {new : T} (hn : P new) : ∀ {t : T}, P t → P (Tr.replace h new t) := by
  intro t
  induction t using Tr.kidsInd with
  | node t ih =>
    intro ht
    rw [replace_eq]
    split
    · exact hn
    · exact hmap t _ ht fun c hc => ih c hc (hkids t ht c hc)

theorem replace_wf (h : Nat) (new : T) (hn : new.wf = true) : ∀ (t : T), t.wf = true →
    (Tr.replace h new t).wf = true :=
  fun _ => replace_hered (fun _ => wf_kids) (fun _ _ => wf_mapKids) hn
theorem replaceL_wf (h : Nat) (new : T) (hn : new.wf = true) : ∀ (xs : List T), Tr.wfL xs = true →
    Tr.wfL (Tr.replaceL h new xs) = true := by
  intro xs ht
  rw [replaceL_eq]
  exact wfL_iff.mpr (List.forall_mem_map.mpr fun c hc => replace_wf h new hn c (wfL_iff.mp ht c hc))
theorem replaceKV_wf (h : Nat) (new : T) (hn : new.wf = true) : ∀ (kvs : List (Key × T)), Tr.wfKV kvs = true →
    Tr.wfKV (Tr.replaceKV h new kvs) = true := by
  intro kvs ht
  rw [replaceKV_eq]
  -- `kvs` as the bindings of a dict node (its identity plays no part): the keys stay, so they stay unique
  exact wf_mapKids (t := .dict 0 kvs) ht fun c hc => replace_wf h new hn c (wf_kids (t := .dict 0 kvs) ht c hc)

theorem replace_forest {h : Nat} (new : T) {ts : List T} {c : T} (hn : (ts.flatMap Tr.ids).Nodup)
    (hf : ts.findSome? (Tr.find h) = some c) :
    ∃ l₁ x l₂, ts = l₁ ++ x :: l₂ ∧ Tr.find h x = some c ∧
      ts.map (Tr.replace h new) = l₁ ++ Tr.replace h new x :: l₂ := by
  obtain ⟨l₁, x, l₂, rfl, hx, hpre⟩ := List.findSome?_eq_some_iff.mp hf
  refine ⟨l₁, x, l₂, rfl, hx, ?_⟩
  simp only [List.flatMap_append, List.flatMap_cons, List.nodup_append] at hn
  -- `l₁` does not hold `h` (`find?` passed it by); `l₂` does not, its identities being disjoint from `x`'s
  rw [List.map_append, List.map_cons,
    replace_forest_id h new fun y hy => find_eq_none_iff.mp (hpre y hy),
    replace_forest_id h new fun y hy hm =>
      hn.2.1.2.2 h (mem_ids_of_find h x c hx) h (List.mem_flatMap.mpr ⟨y, hy, hm⟩) rfl]

end SC
