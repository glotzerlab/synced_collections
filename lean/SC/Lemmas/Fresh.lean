/-
C16 — `_from_base` builds new nodes: it numbers them from the counter in the order `Tr.ids` lists
them, so the identities of the result are exactly the numbers `[n, n')` the counter handed out,
whatever the argument is (plain data, or data that contains synced nodes with identities of their own).
-/
import SC.Tree
namespace SC
open Tr

variable {ι : Type}

/-- the numbers the counter hands out on its way from `n` to `m` -/
def fresh (n m : Nat) : List Nat := List.range' n (m - n)

theorem mem_fresh {n m i : Nat} : i ∈ fresh n m ↔ n ≤ i ∧ i < m := by
  simp only [fresh, List.mem_range'_1]; omega

theorem nodup_fresh (n m : Nat) : (fresh n m).Nodup := List.nodup_range' ..

theorem fresh_self (n : Nat) : fresh n n = [] := by simp [fresh]

theorem fresh_cons {n m : Nat} (h : n + 1 ≤ m) : n :: fresh (n + 1) m = fresh n m := by
  rw [fresh, fresh, ← Nat.sub_add_sub_cancel h (Nat.le_succ n), Nat.add_sub_cancel_left, List.range'_succ]

theorem fresh_append {n m k : Nat} (h1 : n ≤ m) (h2 : m ≤ k) : fresh n m ++ fresh m k = fresh n k := by
  rw [fresh, fresh, fresh, ← Nat.sub_add_sub_cancel h2 h1, Nat.add_comm, ← List.range'_append_1,
    Nat.add_sub_cancel' h1]

mutual
theorem fromBase_ids : ∀ (t : Tr ι) (n : Nat),
    n ≤ (fromBase t n).2 ∧ Tr.ids (fromBase t n).1 = fresh n (fromBase t n).2
  | .leaf _, n => ⟨Nat.le_refl n, (fresh_self n).symm⟩
  | .list _ xs, n =>
    have h := fromBaseL_ids xs (n + 1)
    ⟨Nat.le_of_succ_le h.1, (congrArg (n :: ·) h.2).trans (fresh_cons h.1)⟩
  | .dict _ kvs, n =>
    have h := fromBaseKV_ids kvs (n + 1)
    ⟨Nat.le_of_succ_le h.1, (congrArg (n :: ·) h.2).trans (fresh_cons h.1)⟩
theorem fromBaseL_ids : ∀ (xs : List (Tr ι)) (n : Nat),
    n ≤ (fromBaseL xs n).2 ∧ Tr.idsL (fromBaseL xs n).1 = fresh n (fromBaseL xs n).2
  | [], n => ⟨Nat.le_refl n, (fresh_self n).symm⟩
  | x :: xs, n =>
    have h1 := fromBase_ids x n
    have h2 := fromBaseL_ids xs (fromBase x n).2
    ⟨Nat.le_trans h1.1 h2.1, (congr (congrArg _ h1.2) h2.2).trans (fresh_append h1.1 h2.1)⟩
theorem fromBaseKV_ids : ∀ (kvs : List (Key × Tr ι)) (n : Nat),
    n ≤ (fromBaseKV kvs n).2 ∧ Tr.idsKV (fromBaseKV kvs n).1 = fresh n (fromBaseKV kvs n).2
  | [], n => ⟨Nat.le_refl n, (fresh_self n).symm⟩
  | (_, v) :: kvs, n =>
    have h1 := fromBase_ids v n
    have h2 := fromBaseKV_ids kvs (fromBase v n).2
    ⟨Nat.le_trans h1.1 h2.1, (congr (congrArg _ h1.2) h2.2).trans (fresh_append h1.1 h2.1)⟩
end

/-- the identities of newly built nodes: pairwise distinct, drawn from the range `[lo, hi)` of the counter -/
def FreshIn (lo hi : Nat) (is : List Nat) : Prop := (∀ i ∈ is, lo ≤ i ∧ i < hi) ∧ is.Nodup

theorem FreshIn.nil (lo : Nat) : FreshIn lo lo [] := ⟨nofun, .nil⟩

theorem freshIn_fresh (n m : Nat) : FreshIn n m (fresh n m) := ⟨fun _ => mem_fresh.mp, nodup_fresh n m⟩

theorem fromBase_fresh (t : Tr ι) (n : Nat) :
    n ≤ (fromBase t n).2 ∧ FreshIn n (fromBase t n).2 (Tr.ids (fromBase t n).1) :=
  ⟨(fromBase_ids t n).1, (fromBase_ids t n).2 ▸ freshIn_fresh ..⟩
theorem fromBaseL_fresh (xs : List (Tr ι)) (n : Nat) :
    n ≤ (fromBaseL xs n).2 ∧ FreshIn n (fromBaseL xs n).2 (Tr.idsL (fromBaseL xs n).1) :=
  ⟨(fromBaseL_ids xs n).1, (fromBaseL_ids xs n).2 ▸ freshIn_fresh ..⟩
theorem fromBaseKV_fresh : ∀ (kvs : List (Key × Tr ι)) (n : Nat),
    n ≤ (fromBaseKV kvs n).2 ∧ FreshIn n (fromBaseKV kvs n).2 (Tr.idsKV (fromBaseKV kvs n).1) :=
  fun kvs n => ⟨(fromBaseKV_ids kvs n).1, (fromBaseKV_ids kvs n).2 ▸ freshIn_fresh ..⟩

end SC
