-- the model
import SC.Json
import SC.Validators
import SC.Tree
import SC.Builtin
import SC.Seq
import SC.Buffer
import SC.Conc
import SC.FS
import SC.Resolver
import SC.Attr
import SC.Table
import SC.Generated.Tables
import SC.Proto
-- L0: trees and the merge
import SC.Lemmas.Assoc
import SC.Lemmas.TrList
import SC.Lemmas.Find
import SC.Lemmas.Valid
import SC.Lemmas.Tree
import SC.Lemmas.Merge
import SC.Lemmas.Path
import SC.Lemmas.Attach
import SC.Lemmas.Fresh
import SC.Lemmas.IdInv
import SC.Lemmas.Natural
import SC.Lemmas.SubP
-- L1: the sequential machine
import SC.Lemmas.Seq
import SC.Lemmas.Invariant
import SC.Lemmas.IdBody
import SC.Lemmas.IdHist
import SC.Lemmas.WfHist
import SC.Lemmas.Refine
import SC.Lemmas.OpTable
-- L2: the buffer machine
import SC.Lemmas.Buffer
import SC.Lemmas.BufRel
import SC.Lemmas.BufSize
import SC.Lemmas.BufCap
import SC.Lemmas.BufHeld
import SC.Lemmas.BufBound
import SC.Lemmas.BufRead
import SC.Lemmas.BufVisible
-- L3–L5
import SC.Lemmas.Conc
import SC.Lemmas.FS
import SC.Lemmas.Resolver
-- the properties
import SC.Props.C01
import SC.Props.C02
import SC.Props.C03
import SC.Props.C04
import SC.Props.C05
import SC.Props.C06
import SC.Props.C07
import SC.Props.C08
import SC.Props.C09
import SC.Props.C10
import SC.Props.C11
import SC.Props.C12
import SC.Props.C13
import SC.Props.C14
import SC.Props.C15
import SC.Props.C16
import SC.Props.C17
import SC.Props.C18
import SC.Props.C19
